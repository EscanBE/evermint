import EvermintModel.Properties.C19
/-!
# C19 — the EIP-712 rendering is injective on sign documents

`C19_rendering_injective`: two message objects whose struct encodings coincide (in the symbolic encoding `Enc`,
i.e. for an ideal hash) are the same JSON value — objects compared as maps — provided each is *canonical*
(distinct keys at every level, as amino JSON is), each type map lists every member name once, and each document
is *well typed* by its own schema (`wellTyped`: a member typed `int64` holds a JSON number, `string` a string,
`bool` a boolean, arrays are homogeneous).  The last hypothesis is what the type generation of
`ethereum/eip712/types.go` provides for the schema it derives from the document itself when arrays are homogeneous
(every real sign document is: arrays of a typed message); it is executable and the driver evaluates it, together
with the other two, on every document of E-crypto.  Without it the statement is false
(`C19_numeric_string_collides`).
-/
namespace Evermint.Eip712

mutual
  def Same : J → J → Prop
    | .null, .null => True
    | .bool a, .bool b => a = b
    | .num a, .num b => a = b
    | .float, .float => True
    | .str a, .str b => a = b
    | .arr xs, .arr ys => SameList xs ys
    | .obj a, .obj b => a.length = b.length ∧ SameFields a b
    | _, _ => False
  def SameList : List J → List J → Prop
    | [], [] => True
    | x :: xs, y :: ys => Same x y ∧ SameList xs ys
    | _, _ => False
  def SameFields : List (String × J) → List (String × J) → Prop
    | [], _ => True
    | (k, v) :: rest, b => (∃ y, lookup b k = some y ∧ Same v y) ∧ SameFields rest b
end

mutual
  def Canon : J → Prop
    | .arr xs => CanonList xs
    | .obj kvs => (kvs.map (·.1)).Nodup ∧ CanonFields kvs
    | _ => True
  def CanonList : List J → Prop
    | [] => True
    | x :: xs => Canon x ∧ CanonList xs
  def CanonFields : List (String × J) → Prop
    | [] => True
    | (_, v) :: r => Canon v ∧ CanonFields r
end

def kindOK (ty : String) (v : J) : Bool :=
  match v with
  | .bool _ => ty == "bool"
  | .num _ => ty == "int64" || ty == "uint256"
  | .float => ty == "int64"
  | .str _ => ty == "string"
  | _ => false

def itemTyped (recur : String → List (String × J) → Bool) (t : Types) (pt : String) (item : J) : Bool :=
  if t.has pt then (match item with | .obj kvs => recur pt kvs | _ => true) else kindOK pt item

def fieldTyped (recur : String → List (String × J) → Bool) (t : Types) (data : List (String × J)) (name ty : String) : Bool :=
  match lookup data name with
  | none => true
  | some v =>
    if ty.endsWith "[]" then (match v with | .arr items => items.all (itemTyped recur t (elemType ty)) | _ => true)
    else if t.has ty then (match v with | .obj kvs => recur ty kvs | _ => true)
    else kindOK ty v

def wellTyped : Nat → Types → String → List (String × J) → Bool
  | 0, _, _, _ => true
  | f + 1, t, p, data =>
    match t.get p with
    | none => true
    | some ms => ms.all (fun m => fieldTyped (wellTyped f t) t data m.1 m.2)

def MembersNodup (t : Types) : Prop := ∀ n ms, t.get n = some ms → (ms.map (·.1)).Nodup

def membersNodup (t : Types) : Bool := t.all (fun e => (e.2.map (·.1)).eraseDups.length == e.2.length)

theorem pigeonhole {α : Type} [DecidableEq α] : ∀ (l₁ l₂ : List α), l₁.Nodup → l₁ ⊆ l₂ → l₂.length ≤ l₁.length → l₂ ⊆ l₁ := by
  intro l₁ l₂ hn hs hl x hx
  refine Decidable.byContradiction fun hx₁ => ?_
  -- otherwise `x :: l₁` is a longer duplicate-free list inside `l₂`
  have := (List.nodup_cons.2 ⟨hx₁, hn⟩).length_le_of_subset (List.cons_subset.2 ⟨hx, hs⟩)
  rw [List.length_cons] at this
  omega

theorem mapM_cons_eq_some {α β : Type} {f : α → Option β} {a : α} {l : List α} {r : List β} :
    (a :: l).mapM f = some r ↔ ∃ b bs, f a = some b ∧ l.mapM f = some bs ∧ r = b :: bs := by
  simp [List.mapM_cons, Option.bind_eq_some_iff, eq_comm (a := r)]

theorem mapM_same {α β : Type} {f g : α → Option β} : ∀ {l : List α} {r : List β}, l.mapM f = some r → l.mapM g = some r →
    ∀ x ∈ l, ∃ y, f x = some y ∧ g x = some y
  | [], _, _, _, x, hx => by cases hx
  | a :: l, r, hf, hg, x, hx => by
    obtain ⟨b, bs, hfa, hfl, rfl⟩ := mapM_cons_eq_some.1 hf
    obtain ⟨b', bs', hga, hgl, h⟩ := mapM_cons_eq_some.1 hg
    cases h
    rcases List.mem_cons.1 hx with rfl | hm
    · exact ⟨b, hfa, hga⟩
    · exact mapM_same hfl hgl x hm

theorem lookup_nil (k : String) : lookup [] k = none := rfl

theorem lookup_cons (k' : String) (v : J) (r : List (String × J)) (k : String) :
    lookup ((k', v) :: r) k = if k' = k then some v else lookup r k := by
  by_cases h : k' = k <;> simp [lookup, h]

theorem lookup_mem {kvs : List (String × J)} {k : String} {v : J} (h : lookup kvs k = some v) : (k, v) ∈ kvs := by
  obtain ⟨⟨k', v'⟩, hf, rfl⟩ := Option.map_eq_some_iff.1 h
  have hk : k' = k := by simpa using List.find?_some hf
  exact hk ▸ List.mem_of_find?_eq_some hf

theorem lookup_eq_none_iff {kvs : List (String × J)} {k : String} : lookup kvs k = none ↔ ∀ v, (k, v) ∉ kvs := by
  simp only [lookup, Option.map_eq_none_iff, List.find?_eq_none, beq_iff_eq]
  exact ⟨fun h v hm => h _ hm rfl, fun h p hp hk => h p.2 (hk ▸ hp)⟩

theorem lookup_of_mem_nodup : ∀ {kvs : List (String × J)} {k : String} {v : J}, (kvs.map (·.1)).Nodup → (k, v) ∈ kvs → lookup kvs k = some v
  | [], _, _, _, h => by cases h
  | (k', v') :: r, k, v, hn, h => by
    obtain ⟨hk', hn'⟩ := List.nodup_cons.1 hn
    rw [lookup_cons]
    rcases List.mem_cons.1 h with heq | hmem
    · cases heq; exact if_pos rfl
    · rw [if_neg, lookup_of_mem_nodup hn' hmem]
      rintro rfl
      exact hk' (List.mem_map.2 ⟨_, hmem, rfl⟩)

theorem lookup_append (a b : List (String × J)) (k : String) :
    lookup (a ++ b) k = (lookup a k).or (lookup b k) := by
  simp only [lookup, List.find?_append, Option.map_or]

theorem sameFields_iff : ∀ {a b : List (String × J)}, SameFields a b ↔ ∀ kv ∈ a, ∃ y, lookup b kv.1 = some y ∧ Same kv.2 y
  | [], _ => by simp [SameFields]
  | (k, v) :: r, b => by
    rw [show SameFields ((k, v) :: r) b ↔ _ ∧ SameFields r b from Iff.rfl, sameFields_iff, List.forall_mem_cons]

theorem canonFields_iff : ∀ {kvs : List (String × J)}, CanonFields kvs ↔ ∀ kv ∈ kvs, Canon kv.2
  | [] => by simp [CanonFields]
  | (k, v) :: r => by
    rw [show CanonFields ((k, v) :: r) ↔ Canon v ∧ CanonFields r from Iff.rfl, canonFields_iff, List.forall_mem_cons]

theorem canonList_iff : ∀ {xs : List J}, CanonList xs ↔ ∀ x ∈ xs, Canon x
  | [] => by simp [CanonList]
  | x :: xs => by
    rw [show CanonList (x :: xs) ↔ Canon x ∧ CanonList xs from Iff.rfl, canonList_iff, List.forall_mem_cons]

theorem sameList_of_mapM {f g : J → Option Enc} : ∀ {xs ys : List J} {r : List Enc}, xs.mapM f = some r → ys.mapM g = some r →
    (∀ x ∈ xs, ∀ y ∈ ys, ∀ e, f x = some e → g y = some e → Same x y) → SameList xs ys
  | [], [], _, _, _, _ => trivial
  | [], b :: ys, r, hf, hg, _ => by
    obtain ⟨_, _, _, _, rfl⟩ := mapM_cons_eq_some.1 hg
    cases hf
  | a :: xs, [], r, hf, hg, _ => by
    obtain ⟨_, _, _, _, rfl⟩ := mapM_cons_eq_some.1 hf
    cases hg
  | a :: xs, b :: ys, r, hf, hg, H => by
    obtain ⟨e, es, hfa, hfl, rfl⟩ := mapM_cons_eq_some.1 hf
    obtain ⟨e', es', hgb, hgl, h⟩ := mapM_cons_eq_some.1 hg
    cases h
    exact ⟨H a (List.mem_cons_self ..) b (List.mem_cons_self ..) e hfa hgb,
      sameList_of_mapM hfl hgl fun x hx y hy => H x (List.mem_cons_of_mem _ hx) y (List.mem_cons_of_mem _ hy)⟩

/-- a type the schema does not know behaves like one without members -/
theorem encodeStruct_succ (f : Nat) (t : Types) (p : String) (d : List (String × J)) :
    encodeStruct (f + 1) t p d =
      if ((t.get p).getD []).length < d.length then none
      else (((t.get p).getD []).mapM fun m => encodeField (encodeStruct f t) t d m.1 m.2).map
        (Enc.struct p ((t.get p).getD []) (encodeType t p)) := by
  rw [encodeStruct]
  cases t.get p <;> rfl

theorem encodeStruct_succ_eq_some {f : Nat} {t : Types} {p : String} {d : List (String × J)} {e : Enc} :
    encodeStruct (f + 1) t p d = some e ↔
      ¬ ((t.get p).getD []).length < d.length ∧
      ∃ fs, ((t.get p).getD []).mapM (fun m => encodeField (encodeStruct f t) t d m.1 m.2) = some fs ∧
        e = .struct p ((t.get p).getD []) (encodeType t p) fs := by
  rw [encodeStruct_succ]
  split <;> simp [*, eq_comm (a := e)]

theorem wellTyped_succ (f : Nat) (t : Types) (p : String) (d : List (String × J)) :
    wellTyped (f + 1) t p d = ((t.get p).getD []).all fun m => fieldTyped (wellTyped f t) t d m.1 m.2 := by
  rw [wellTyped]
  cases t.get p <;> rfl

theorem MembersNodup.getD {t : Types} (h : MembersNodup t) (p : String) : (((t.get p).getD []).map (·.1)).Nodup := by
  cases hg : t.get p with
  | none => exact List.nodup_nil
  | some ms => exact h p ms hg

def Enc.isStruct : Enc → Bool
  | .struct .. => true
  | _ => false

theorem encodeStruct_isStruct {f : Nat} {t : Types} {p : String} {d : List (String × J)} {e : Enc}
    (h : encodeStruct f t p d = some e) : e.isStruct = true := by
  cases f with
  | zero => cases h
  | succ f =>
    obtain ⟨-, _, -, rfl⟩ := encodeStruct_succ_eq_some.1 h
    rfl

theorem encodePrim_isStruct {ty : String} {v : J} {e : Enc} (h : encodePrim ty v = some e) : e.isStruct = false := by
  rcases encodePrim_eq_some h with ⟨_, _, _, rfl⟩ | ⟨_, _, _, rfl⟩ | ⟨_, _, _, rfl⟩ | ⟨_, _, _, _, rfl⟩ <;> rfl

/-- `encodeField` after the `lookup` (`encodeField_eq`); its last two branches are `encodeItem` at the member's own type -/
def encodeValue (recur : String → List (String × J) → Option Enc) (t : Types) (ty : String) (v : J) : Option Enc :=
  if ty.endsWith "[]" then
    match v with
    | .arr items => (items.mapM (encodeItem recur t (elemType ty))).map Enc.arr
    | _ => none
  else encodeItem recur t ty v

def valueTyped (recur : String → List (String × J) → Bool) (t : Types) (ty : String) (v : J) : Bool :=
  if ty.endsWith "[]" then (match v with | .arr items => items.all (itemTyped recur t (elemType ty)) | _ => true)
  else itemTyped recur t ty v

theorem encodeField_eq (r : String → List (String × J) → Option Enc) (t : Types) (d : List (String × J)) (n ty : String) :
    encodeField r t d n ty = (lookup d n).bind (encodeValue r t ty) := by
  unfold encodeField encodeValue encodeItem
  -- as variables the two conditions cannot be unfolded while the `rfl`s compare the branches
  generalize ty.endsWith "[]" = a
  generalize t.has ty = s
  cases lookup d n with
  | none => cases a <;> cases s <;> rfl
  | some v => cases v <;> rfl

theorem fieldTyped_eq (w : String → List (String × J) → Bool) (t : Types) (d : List (String × J)) (n ty : String) :
    fieldTyped w t d n ty = (lookup d n).all (valueTyped w t ty) := by
  unfold fieldTyped
  cases lookup d n <;> rfl

/-- what the induction hypothesis provides for the nested-struct encoder of each side -/
structure RecInj (r1 r2 : String → List (String × J) → Option Enc) (w1 w2 : String → List (String × J) → Bool) : Prop where
  inj : ∀ {p1 p2 d1 d2 e}, r1 p1 d1 = some e → r2 p2 d2 = some e → Canon (.obj d1) → Canon (.obj d2) →
    w1 p1 d1 = true → w2 p2 d2 = true → Same (.obj d1) (.obj d2)
  s1 : ∀ {p d e}, r1 p d = some e → e.isStruct = true
  s2 : ∀ {p d e}, r2 p d = some e → e.isStruct = true

theorem encodeItem_isStruct {r : String → List (String × J) → Option Enc} {t : Types} {pt : String} {x : J} {e : Enc}
    (hs : ∀ {p d e}, r p d = some e → e.isStruct = true) (h : encodeItem r t pt x = some e) : e.isStruct = t.has pt := by
  unfold encodeItem at h
  by_cases a : t.has pt = true
  · rw [if_pos a] at h
    cases x <;> simp at h
    rw [hs h, a]
  · rw [if_neg a] at h
    rw [encodePrim_isStruct h, Bool.eq_false_iff.2 a]

theorem kind_int64_num {v : J} {e : Enc} (hk : kindOK "int64" v = true) (he : encodePrim "int64" v = some e) : ∃ n, v = .num n := by
  cases v <;> simp [kindOK] at hk
  · exact ⟨_, rfl⟩
  · simp [encodePrim, parseInt64] at he

theorem same_of_kindOK {ty : String} {v : J} (h : kindOK ty v = true) : Same v v := by
  cases v with
  | bool _ | num _ | str _ => exact rfl
  | float => trivial
  | null | arr _ | obj _ => cases h

theorem item_inj {r1 r2 w1 w2} (hrec : RecInj r1 r2 w1 w2) {t1 t2 : Types} {pt : String} {x y : J} {e : Enc}
    (h1 : encodeItem r1 t1 pt x = some e) (h2 : encodeItem r2 t2 pt y = some e)
    (c1 : Canon x) (c2 : Canon y) (ty1 : itemTyped w1 t1 pt x = true) (ty2 : itemTyped w2 t2 pt y = true) : Same x y := by
  -- the encoding shows whether `pt` is a struct type of the schema, so the two schemas agree on that
  have a : t2.has pt = t1.has pt := (encodeItem_isStruct hrec.s2 h2).symm.trans (encodeItem_isStruct hrec.s1 h1)
  unfold encodeItem at h1 h2
  unfold itemTyped at ty1 ty2
  rw [a] at h2 ty2
  by_cases a1 : t1.has pt = true
  · rw [if_pos a1] at h1 h2 ty1 ty2
    cases x <;> simp at h1
    cases y <;> simp at h2
    exact hrec.inj h1 h2 c1 c2 ty1 ty2
  · rw [if_neg a1] at h1 h2 ty1 ty2
    have hxy : x = y := by
      apply C19_prim_injective pt x y e _ h1 h2
      intro hpt; subst hpt
      exact ⟨kind_int64_num ty1 h1, kind_int64_num ty2 h2⟩
    subst hxy
    exact same_of_kindOK ty1

theorem value_inj {r1 r2 w1 w2} (hrec : RecInj r1 r2 w1 w2) {t1 t2 : Types} {ty : String} {x y : J} {e : Enc}
    (h1 : encodeValue r1 t1 ty x = some e) (h2 : encodeValue r2 t2 ty y = some e)
    (c1 : Canon x) (c2 : Canon y) (ty1 : valueTyped w1 t1 ty x = true) (ty2 : valueTyped w2 t2 ty y = true) : Same x y := by
  unfold encodeValue at h1 h2
  unfold valueTyped at ty1 ty2
  by_cases harr : ty.endsWith "[]" = true
  · rw [if_pos harr] at h1 h2 ty1 ty2
    cases x <;> simp at h1
    cases y <;> simp at h2
    obtain ⟨es, hm1, rfl⟩ := h1
    obtain ⟨es', hm2, he⟩ := h2
    cases he
    exact sameList_of_mapM hm1 hm2 fun x hx y hy _ h1' h2' =>
      item_inj hrec h1' h2' (canonList_iff.1 c1 x hx) (canonList_iff.1 c2 y hy)
        (List.all_eq_true.1 ty1 x hx) (List.all_eq_true.1 ty2 y hy)
  · rw [if_neg harr] at h1 h2 ty1 ty2
    exact item_inj hrec h1 h2 c1 c2 ty1 ty2

theorem field_inj {r1 r2 w1 w2} (hrec : RecInj r1 r2 w1 w2) {t1 t2 : Types} {d1 d2 : List (String × J)} {n ty : String} {e : Enc}
    (h1 : encodeField r1 t1 d1 n ty = some e) (h2 : encodeField r2 t2 d2 n ty = some e)
    (c1 : CanonFields d1) (c2 : CanonFields d2)
    (ty1 : fieldTyped w1 t1 d1 n ty = true) (ty2 : fieldTyped w2 t2 d2 n ty = true) :
    ∃ x y, lookup d1 n = some x ∧ lookup d2 n = some y ∧ Same x y := by
  rw [encodeField_eq] at h1 h2
  rw [fieldTyped_eq] at ty1 ty2
  obtain ⟨x, l1, h1⟩ := Option.bind_eq_some_iff.1 h1
  obtain ⟨y, l2, h2⟩ := Option.bind_eq_some_iff.1 h2
  rw [l1] at ty1
  rw [l2] at ty2
  exact ⟨x, y, l1, l2, value_inj hrec h1 h2
    (canonFields_iff.1 c1 _ (lookup_mem l1)) (canonFields_iff.1 c2 _ (lookup_mem l2)) ty1 ty2⟩

theorem keys_of_members {ms : Members} {d : List (String × J)} (hn : (ms.map (·.1)).Nodup)
    (hl : ¬ ms.length < d.length) (h : ∀ m ∈ ms, ∃ v, lookup d m.1 = some v) :
    d.length = ms.length ∧ d.map (·.1) ⊆ ms.map (·.1) := by
  have sub : ms.map (·.1) ⊆ d.map (·.1) := by
    intro n hnm
    obtain ⟨m, hm, rfl⟩ := List.mem_map.1 hnm
    obtain ⟨v, l⟩ := h m hm
    exact List.mem_map.2 ⟨(m.1, v), lookup_mem l, rfl⟩
  have len := hn.length_le_of_subset sub
  simp only [List.length_map] at len
  exact ⟨by omega, pigeonhole _ _ hn sub (by simp only [List.length_map]; omega)⟩

theorem members_inj {r1 r2 w1 w2} (hrec : RecInj r1 r2 w1 w2) {t1 t2 : Types} {d1 d2 : List (String × J)} {ms : Members} {fs : List Enc}
    (hm1 : ms.mapM (fun m => encodeField r1 t1 d1 m.1 m.2) = some fs) (hm2 : ms.mapM (fun m => encodeField r2 t2 d2 m.1 m.2) = some fs)
    (hl1 : ¬ ms.length < d1.length) (hl2 : ¬ ms.length < d2.length) (hn : (ms.map (·.1)).Nodup)
    (c1 : Canon (.obj d1)) (c2 : Canon (.obj d2))
    (ty1 : ms.all (fun m => fieldTyped w1 t1 d1 m.1 m.2) = true) (ty2 : ms.all (fun m => fieldTyped w2 t2 d2 m.1 m.2) = true) :
    Same (.obj d1) (.obj d2) := by
  have facts : ∀ m ∈ ms, ∃ x y, lookup d1 m.1 = some x ∧ lookup d2 m.1 = some y ∧ Same x y := by
    intro m hm
    obtain ⟨e, h1, h2⟩ := mapM_same hm1 hm2 m hm
    exact field_inj hrec h1 h2 c1.2 c2.2 (List.all_eq_true.1 ty1 m hm) (List.all_eq_true.1 ty2 m hm)
  obtain ⟨len1, back1⟩ := keys_of_members hn hl1 fun m hm => let ⟨x, _, l, _⟩ := facts m hm; ⟨x, l⟩
  obtain ⟨len2, -⟩ := keys_of_members hn hl2 fun m hm => let ⟨_, y, _, l, _⟩ := facts m hm; ⟨y, l⟩
  refine ⟨len1.trans len2.symm, sameFields_iff.2 fun kv hkv => ?_⟩
  -- an entry of the first object is a member; its key is looked up to itself, the keys being distinct
  obtain ⟨m, hm, hmk⟩ := List.mem_map.1 (back1 (List.mem_map.2 ⟨kv, hkv, rfl⟩))
  obtain ⟨x, y, l1, l2, hs⟩ := facts m hm
  rw [hmk] at l1 l2
  rw [lookup_of_mem_nodup c1.1 hkv] at l1
  cases l1
  exact ⟨y, l2, hs⟩

/-- **C19 (the EIP-712 rendering is injective).**  Two message objects with the same struct encoding — under
whatever type maps, for an ideal hash — are the same JSON value (objects as maps), provided each is canonical,
each type map lists every member once and each document is well typed by its own schema. -/
theorem C19_rendering_injective : ∀ (f1 f2 : Nat) (t1 t2 : Types) (p1 p2 : String) (d1 d2 : List (String × J)) (e : Enc),
    MembersNodup t1 → MembersNodup t2 →
    encodeStruct f1 t1 p1 d1 = some e → encodeStruct f2 t2 p2 d2 = some e →
    Canon (.obj d1) → Canon (.obj d2) → wellTyped f1 t1 p1 d1 = true → wellTyped f2 t2 p2 d2 = true →
    Same (.obj d1) (.obj d2) := by
  intro f1
  induction f1 with
  | zero => intro f2 t1 t2 p1 p2 d1 d2 e _ _ h1; cases h1
  | succ f1 ih =>
    intro f2 t1 t2 p1 p2 d1 d2 e n1 n2 h1 h2 c1 c2 w1 w2
    cases f2 with
    | zero => cases h2
    | succ f2 =>
      have hrec : RecInj (encodeStruct f1 t1) (encodeStruct f2 t2) (wellTyped f1 t1) (wellTyped f2 t2) :=
        { inj := ih f2 t1 t2 _ _ _ _ _ n1 n2, s1 := encodeStruct_isStruct, s2 := encodeStruct_isStruct }
      obtain ⟨hl1, fs, hm1, rfl⟩ := encodeStruct_succ_eq_some.1 h1
      obtain ⟨hl2, fs2, hm2, he⟩ := encodeStruct_succ_eq_some.1 h2
      -- the encoding carries the member list: both sides went through the same members
      obtain ⟨-, hms, -, rfl⟩ := Enc.struct.inj he
      rw [wellTyped_succ] at w1 w2
      rw [← hms] at hm2 hl2 w2
      exact members_inj hrec hm1 hm2 hl1 hl2 (n1.getD p1) c1 c2 w1 w2

/-! ## the hypotheses as executable checks (evaluated by the driver on every document of E-crypto) -/

mutual
  def canonB : J → Bool
    | .arr xs => canonListB xs
    | .obj kvs => decide ((kvs.map (·.1)).Nodup) && canonFieldsB kvs
    | _ => true
  def canonListB : List J → Bool
    | [] => true
    | x :: xs => canonB x && canonListB xs
  def canonFieldsB : List (String × J) → Bool
    | [] => true
    | (_, v) :: r => canonB v && canonFieldsB r
end

mutual
  theorem canonB_sound : ∀ (j : J), canonB j = true → Canon j
    | .arr xs, h => canonListB_sound xs h
    | .obj kvs, h => by
      rw [canonB, Bool.and_eq_true, decide_eq_true_eq] at h
      exact ⟨h.1, canonFieldsB_sound kvs h.2⟩
    | .null, _ | .bool _, _ | .num _, _ | .float, _ | .str _, _ => trivial
  theorem canonListB_sound : ∀ (xs : List J), canonListB xs = true → CanonList xs
    | [], _ => trivial
    | x :: xs, h => by
      rw [canonListB, Bool.and_eq_true] at h
      exact ⟨canonB_sound x h.1, canonListB_sound xs h.2⟩
  theorem canonFieldsB_sound : ∀ (kvs : List (String × J)), canonFieldsB kvs = true → CanonFields kvs
    | [], _ => trivial
    | (_, v) :: r, h => by
      rw [canonFieldsB, Bool.and_eq_true] at h
      exact ⟨canonB_sound v h.1, canonFieldsB_sound r h.2⟩
end

def membersNodupB (t : Types) : Bool := t.all (fun e => decide ((e.2.map (·.1)).Nodup))

theorem membersNodupB_sound (t : Types) (h : membersNodupB t = true) : MembersNodup t := by
  intro n ms hg
  obtain ⟨e, hf, rfl⟩ := Option.map_eq_some_iff.1 hg
  exact of_decide_eq_true (List.all_eq_true.1 h e (List.mem_of_find?_eq_some hf))

def domainObj (chainId : Nat) : List (String × J) :=
  [("name", .str "Cosmos Web3"), ("version", .str "1.0.0"), ("chainId", .num chainId), ("verifyingContract", .str "cosmos"), ("salt", .str "0")]

theorem domainObj_canon (c : Nat) : Canon (.obj (domainObj c)) := canonB_sound _ rfl

/-- everything `C19_typed_injective` asks of one document, computed -/
def docOK (chainId : Nat) (doc : J) : Bool :=
  match wrap doc with
  | none => false
  | some td =>
    membersNodupB td.types && canonB (.obj td.message) && wellTyped (jdepth doc + 2) td.types "Tx" td.message &&
    wellTyped 2 td.types "EIP712Domain" (domainObj chainId)

theorem docOK_sound {c : Nat} {doc : J} {td : Typed} (hw : wrap doc = some td) (h : docOK c doc = true) :
    MembersNodup td.types ∧ Canon (.obj td.message) ∧ wellTyped (jdepth doc + 2) td.types "Tx" td.message = true ∧
      wellTyped 2 td.types "EIP712Domain" (domainObj c) = true := by
  simp only [docOK, hw, Bool.and_eq_true] at h
  obtain ⟨⟨⟨hn, hc⟩, hm⟩, hd⟩ := h
  exact ⟨membersNodupB_sound _ hn, canonB_sound _ hc, hm, hd⟩

theorem typedEnc_eq_some {c : Nat} {doc : J} {td : Typed} {d m : Enc} (hw : wrap doc = some td) (h : typedEnc c doc = some (d, m)) :
    encodeStruct 2 td.types "EIP712Domain" (domainObj c) = some d ∧
      encodeStruct (jdepth doc + 2) td.types "Tx" td.message = some m := by
  simp only [typedEnc, hw] at h
  split at h
  · cases h
  split at h
  · cases h
  split at h
  next hd hm => cases h; exact ⟨hd, hm⟩
  · cases h

/-- **C19 (one signature, one transaction).**  If the EIP-712 renderings of two sign documents coincide — domain
separator and message hash, for an ideal hash — then the chain ids are equal and the two (flattened) documents
are the same JSON value: same account number, sequence, fee, gas, memo and every field of every message. -/
theorem C19_typed_injective (c1 c2 : Nat) (doc1 doc2 : J) (td1 td2 : Typed) (d m : Enc)
    (hw1 : wrap doc1 = some td1) (hw2 : wrap doc2 = some td2)
    (h1 : typedEnc c1 doc1 = some (d, m)) (h2 : typedEnc c2 doc2 = some (d, m))
    (ok1 : docOK c1 doc1 = true) (ok2 : docOK c2 doc2 = true) :
    c1 = c2 ∧ Same (.obj td1.message) (.obj td2.message) := by
  obtain ⟨N1, k1, w1, wd1⟩ := docOK_sound hw1 ok1
  obtain ⟨N2, k2, w2, wd2⟩ := docOK_sound hw2 ok2
  obtain ⟨hd1, hm1⟩ := typedEnc_eq_some hw1 h1
  obtain ⟨hd2, hm2⟩ := typedEnc_eq_some hw2 h2
  refine ⟨?_, C19_rendering_injective _ _ _ _ _ _ _ _ _ N1 N2 hm1 hm2 k1 k2 w1 w2⟩
  -- the domain objects are rendered by the same encoder, and the chain id is one of their members
  have hdom := C19_rendering_injective _ _ _ _ _ _ _ _ _ N1 N2 hd1 hd2 (domainObj_canon c1) (domainObj_canon c2) wd1 wd2
  obtain ⟨y, hy, hs⟩ := sameFields_iff.1 hdom.2 ("chainId", .num c1) (by simp [domainObj])
  have hl : lookup (domainObj c2) "chainId" = some (.num c2) := by simp [domainObj, lookup_cons]
  rw [hl] at hy
  cases hy
  exact Int.ofNat.inj hs

/-! non-vacuity: a document of two messages meets every hypothesis and renders -/
def sampleDoc : J := .obj [
  ("account_number", .str "7"), ("chain_id", .str "evermint_9000-1"),
  ("fee", .obj [("amount", .arr [.obj [("amount", .str "100"), ("denom", .str "aevm")]]), ("gas", .str "21000")]),
  ("memo", .str ""),
  ("msgs", .arr [
    .obj [("type", .str "cosmos-sdk/MsgSend"), ("value", .obj [("amount", .arr [.obj [("amount", .str "5"), ("denom", .str "aevm")]]), ("from_address", .str "a"), ("to_address", .str "b")])],
    .obj [("type", .str "cosmos-sdk/MsgVote"), ("value", .obj [("option", .num 1), ("proposal_id", .str "3"), ("voter", .str "a")])]]),
  ("sequence", .str "4")]

/-- One evaluation for both facts: they share the type generation (`wrap`), and strings are dear in the kernel. -/
theorem sampleDoc_ok : docOK 9000 sampleDoc = true ∧ (typedEnc 9000 sampleDoc).isSome = true := by decide +kernel

example : docOK 9000 sampleDoc = true := sampleDoc_ok.1
example : (typedEnc 9000 sampleDoc).isSome = true := sampleDoc_ok.2

end Evermint.Eip712
