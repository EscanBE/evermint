import EvermintModel.Model.Sig
import EvermintModel.Model.Eip712
/-!
# C19 — keys, addresses and signatures bind to exactly one key and one message  *(partial)*

Proved here: the decision logic of `VerifySignature` over ideal primitives (one key; the exact message or its
EIP-712 rendering; nothing else: `verify_iff`), and structural facts of the EIP-712 rendering model that injectivity
rests on (extra members are refused, primitive encodings are injective, a document that already carries a `msg0`
key is refused).  The injectivity of the rendering over nested documents is `Properties/C19Inj.lean` and
`Properties/C19Flat.lean`.  Not proved: unforgeability of ECDSA and collision resistance of Keccak (they are the
ideal primitives of the model), BIP-39/32/44 conformance (E-crypto compares with a second implementation and
published vectors: a test); the executable model is compared with the Go code digest for digest on every run.
-/
namespace Evermint.Sig

variable {Key Msg : Type} [DecidableEq Key] [DecidableEq Msg]

theorem verifyECDSA_iff (pk : Key) (x : Msg) (s : Signature Key Msg) :
    verifyECDSA pk x s = true ↔ s.signer = pk ∧ (s.len = 64 ∨ s.len = 65) ∧ s.lowS = true ∧ s.digest = x := by
  have hl : (if s.len = 65 then 64 else s.len) = 64 ↔ s.len = 64 ∨ s.len = 65 := by
    by_cases h : s.len = 65 <;> simp [h]
  simp only [verifyECDSA, ecdsaVerify, Bool.and_eq_true, beq_iff_eq, hl]
  exact ⟨fun ⟨⟨⟨l, s⟩, k⟩, d⟩ => ⟨k, l, s, d⟩, fun ⟨k, l, s, d⟩ => ⟨⟨⟨l, s⟩, k⟩, d⟩⟩

theorem verify_iff (render : Msg → Option Msg) (pk : Key) (m : Msg) (s : Signature Key Msg) :
    verify render pk m s = true ↔
      s.signer = pk ∧ (s.len = 64 ∨ s.len = 65) ∧ s.lowS = true ∧ (s.digest = m ∨ render m = some s.digest) := by
  unfold verify
  cases render m with
  | none => simp [verifyECDSA_iff]
  | some b => simp only [Bool.or_eq_true, verifyECDSA_iff, ← and_or_left, Option.some.injEq, eq_comm (a := b)]

/-- **one key, one message.** Whatever verifies was signed by that very key, has 64 or 65 bytes and a low `s`,
and was signed over the message itself or over its EIP-712 rendering. -/
theorem C19_verify_sound (render : Msg → Option Msg) (pk : Key) (m : Msg) (s : Signature Key Msg)
    (h : verify render pk m s = true) :
    s.signer = pk ∧ (s.len = 64 ∨ s.len = 65) ∧ s.lowS = true ∧ (s.digest = m ∨ render m = some s.digest) :=
  (verify_iff render pk m s).1 h

/-- a signature never verifies under two different keys -/
theorem C19_one_key (render : Msg → Option Msg) (pk pk' : Key) (m m' : Msg) (s : Signature Key Msg)
    (h : verify render pk m s = true) (h' : verify render pk' m' s = true) : pk = pk' := by
  rw [← (C19_verify_sound render pk m s h).1, ← (C19_verify_sound render pk' m' s h').1]

/-- **one message.** If the rendering is injective and never collides with a plain document (an EIP-712
preimage `0x19 0x01 ‖ …` is not itself a sign document — `hplain`), a signature verifies for one message only. -/
theorem C19_one_message (render : Msg → Option Msg) (pk : Key) (m m' : Msg) (s : Signature Key Msg)
    (hinj : ∀ a b x, render a = some x → render b = some x → a = b)
    (hplain : ∀ a b, render a = some b → (b = m ∨ b = m') → False)   -- neither message *is* the rendering of a document
    (h : verify render pk m s = true) (h' : verify render pk m' s = true) : m = m' := by
  obtain ⟨-, -, -, a⟩ := C19_verify_sound render pk m s h
  obtain ⟨-, -, -, b⟩ := C19_verify_sound render pk m' s h'
  rcases a with a | a <;> rcases b with b | b
  · rw [← a, ← b]
  · exact (hplain m' s.digest b (Or.inl a)).elim
  · exact (hplain m s.digest a (Or.inr b)).elim
  · exact hinj m m' s.digest a b

/-- what the real verifier refuses whatever the key: wrong length, high `s` -/
theorem C19_malformed_refused (render : Msg → Option Msg) (pk : Key) (m : Msg) (s : Signature Key Msg)
    (hbad : (s.len ≠ 64 ∧ s.len ≠ 65) ∨ s.lowS = false) : verify render pk m s = false := by
  rw [← Bool.not_eq_true, verify_iff]
  rintro ⟨-, hl, hs, -⟩
  rcases hbad with ⟨h1, h2⟩ | h3
  · exact hl.elim h1 h2
  · rw [h3] at hs; cases hs

/-- an honest signature over the rendering verifies for the document (both signature forms) -/
theorem C19_honest_accepted (render : Msg → Option Msg) (pk : Key) (m b : Msg) (hr : render m = some b) (l : Nat) (hl : l = 64 ∨ l = 65) :
    verify render pk m { signer := pk, digest := b, len := l, lowS := true } = true :=
  (verify_iff ..).2 ⟨rfl, hl, rfl, .inr hr⟩

example : verify (fun (m : Nat) => if m < 100 then some (m + 1000) else none) (7 : Nat) 5 { signer := 7, digest := 1005, len := 65, lowS := true } = true := by decide
example : verify (fun (m : Nat) => if m < 100 then some (m + 1000) else none) (7 : Nat) 6 { signer := 7, digest := 1005, len := 65, lowS := true } = false := by decide

end Evermint.Sig

namespace Evermint.Eip712

theorem encodePrim_eq_some {ty : String} {v : J} {e : Enc} (h : encodePrim ty v = some e) :
    (ty = "bool" ∧ ∃ b, v = .bool b ∧ e = .word (if b then 1 else 0)) ∨
    (ty = "string" ∧ ∃ s, v = .str s ∧ e = .str s) ∨
    (ty = "int64" ∧ ∃ n, parseInt64 v = some n ∧ e = .word n) ∨
    (ty = "uint256" ∧ ∃ n, v = .num n ∧ 0 ≤ n ∧ e = .word n) := by
  unfold encodePrim at h
  split at h
  · cases v <;> cases h
    exact .inl ⟨‹_›, _, rfl, rfl⟩
  split at h
  · cases v <;> cases h
    exact .inr (.inl ⟨‹_›, _, rfl, rfl⟩)
  split at h
  · obtain ⟨n, hn, rfl⟩ := Option.map_eq_some_iff.1 h
    exact .inr (.inr (.inl ⟨‹_›, n, hn, rfl⟩))
  split at h
  · split at h
    · split at h <;> cases h
      exact .inr (.inr (.inr ⟨‹_›, _, rfl, ‹_›, rfl⟩))
    · cases h
  · cases h

theorem parseInt64_num {n m : Int} (h : parseInt64 (.num n) = some m) : n = m := by
  simp only [parseInt64] at h
  split at h <;> simp_all

/-- primitive encodings are injective for each type — for `int64` on JSON *numbers*: a numeric string is
accepted for an integer type too (`parseInteger`), see `C19_numeric_string_collides`. -/
theorem C19_prim_injective (ty : String) (v v' : J) (e : Enc)
    (hnum : ty = "int64" → (∃ n, v = .num n) ∧ (∃ n, v' = .num n))
    (h : encodePrim ty v = some e) (h' : encodePrim ty v' = some e) : v = v' := by
  -- the type is the same on both sides, so only the diagonal of the two case distinctions is possible
  rcases encodePrim_eq_some h with ⟨t, b, rfl, rfl⟩ | ⟨t, s, rfl, rfl⟩ | ⟨t, n, hn, rfl⟩ | ⟨t, n, rfl, -, rfl⟩ <;>
    rcases encodePrim_eq_some h' with ⟨t', b', rfl, he⟩ | ⟨t', s', rfl, he⟩ | ⟨t', n', hn', he⟩ | ⟨t', n', rfl, -, he⟩ <;>
    try exact absurd (t.symm.trans t') (by decide)
  · cases b <;> cases b' <;> first | rfl | cases he
  · cases he; rfl
  · obtain ⟨⟨a, rfl⟩, ⟨a', rfl⟩⟩ := hnum t
    cases he
    rw [parseInt64_num hn, parseInt64_num hn']
  · cases he; rfl

/-- **outside sign documents the rendering is not injective**: where a member is typed `int64` (a JSON number,
or an array whose *first* element is a number), a numeric string in that position encodes like the number.
Sign documents are renderings of typed messages (homogeneous arrays, integers of one JSON kind per field), so
this needs a document no transaction renders to; E-crypto replays the witness on the Go code. -/
theorem C19_numeric_string_collides :
    (encodePrim "int64" (.str "0x10") = some (.word 16) ∧ encodePrim "int64" (.num 16) = some (.word 16)) ∧
    (encodePrim "int64" (.str "") = some (.word 0) ∧ encodePrim "int64" (.num 0) = some (.word 0)) := by
  refine ⟨⟨?_, ?_⟩, ⟨?_, ?_⟩⟩ <;> rfl

/-- **extra data is refused**: a message object with more entries than the type has members never encodes —
so a field that the type generation skipped (`null`, nested arrays) makes the whole document unsignable
rather than silently unsigned. -/
theorem C19_extra_data_refused (fuel : Nat) (t : Types) (p : String) (data : List (String × J)) (ms : Members)
    (ht : t.get p = some ms) (hlen : ms.length < data.length) : encodeStruct fuel t p data = none := by
  cases fuel with
  | zero => rfl
  | succ f => simp [encodeStruct, ht, hlen]

/-- a document that already has a `msg{i}` key is refused (the flattened message could otherwise shadow it) -/
theorem C19_flatten_refuses_shadow (kvs : List (String × J)) (m : J) (rest : List J) (h : (lookup kvs (msgField 0)).isSome)
    (hm : lookup kvs "msgs" = some (.arr (m :: rest))) : flatten (.obj kvs) = none := by
  simp [flatten, hm, flatten.go, h]

example : flatten (.obj [("msg0", .str "x"), ("msgs", .arr [.obj []])]) = none := by decide
example : (flatten (.obj [("memo", .str "x"), ("msgs", .arr [.obj [("type", .str "a/B")]])])).isSome = true := by decide

end Evermint.Eip712
