import EvermintModel.Model.StateDB
/-!
# C01 — block execution is a deterministic function of prior state and block

The executable models are pure functions of (state, block): nothing in them reads a clock, a random
source or a configuration value.  What has to be *shown* is that the places where the Go code meets a
nondeterministic source are harmless.  The sources are regenerated from /repo on every run
(`Facts/Determinism.lean`: wall-clock reads, `range` over maps, goroutines, rand, getenv in consensus
packages); this file proves the order-independence arguments those obligations rest on:

* the touched / self-destructed account *sets* (Go maps) are consumed through a sorted slice — the
  commit result depends on the set only, not on the order in which the map yields or received its keys
  (`C01_touched_order_irrelevant`, `C01_commit_order_independent`);
* copying a map by ranging over it (access list, transient storage, account tracker copies) yields the
  same map whatever the iteration order (`C01_map_copy_order_independent`);
* the admission price floor in deliver (and re-check) mode does not read the node-local minimum gas
  price (`C01_deliver_ignores_node_config`).
The tie for everything else is E-reexec (twin execution, twin process).
-/
namespace Evermint

/-! ## sorted sets: `setInsert` builds a canonical representation -/

def Sorted (l : List Nat) : Prop := l.Pairwise (· < ·)

theorem mem_setInsert (a x : Nat) (l : List Nat) : x ∈ setInsert a l ↔ x = a ∨ x ∈ l := by
  induction l with
  | nil => simp [setInsert]
  | cons y ys ih =>
    unfold setInsert
    split
    · simp
    · split
      · rename_i h; simp [h]
      · simp [ih, or_left_comm]

theorem setInsert_sorted (a : Nat) (l : List Nat) (h : Sorted l) : Sorted (setInsert a l) := by
  induction l with
  | nil => simp [setInsert, Sorted]
  | cons y ys ih =>
    obtain ⟨hy, hys⟩ := List.pairwise_cons.1 h
    unfold setInsert
    split
    · rename_i hlt
      exact List.pairwise_cons.2 ⟨fun z hz => (List.mem_cons.1 hz).elim (· ▸ hlt) fun hz => Nat.lt_trans hlt (hy z hz), h⟩
    · split
      · exact h
      · refine List.pairwise_cons.2 ⟨fun z hz => ?_, ih hys⟩
        rcases (mem_setInsert a z ys).1 hz with rfl | hz
        · omega
        · exact hy z hz

theorem sorted_ext (l1 l2 : List Nat) (h1 : Sorted l1) (h2 : Sorted l2) (h : ∀ x, x ∈ l1 ↔ x ∈ l2) : l1 = l2 :=
  List.Perm.eq_of_pairwise (fun _ _ _ _ hab hba => absurd hab (Nat.lt_asymm hba)) h1 h2
    ((List.perm_ext_iff_of_nodup (h1.imp Nat.ne_of_lt) (h2.imp Nat.ne_of_lt)).2 h)

theorem foldr_setInsert_sorted {l0 : List Nat} (h0 : Sorted l0) (l : List Nat) : Sorted (l.foldr setInsert l0) := by
  induction l with
  | nil => exact h0
  | cons a l ih => exact setInsert_sorted a _ ih

theorem mem_foldr_setInsert (x : Nat) (l0 l : List Nat) : x ∈ l.foldr setInsert l0 ↔ x ∈ l ∨ x ∈ l0 := by
  induction l with
  | nil => simp
  | cons a l ih => rw [List.foldr_cons, mem_setInsert, ih, List.mem_cons, or_assoc]

theorem foldr_setInsert_ext {l0 : List Nat} (h0 : Sorted l0) (l1 l2 : List Nat) (h : ∀ x, x ∈ l1 ↔ x ∈ l2) :
    l1.foldr setInsert l0 = l2.foldr setInsert l0 :=
  sorted_ext _ _ (foldr_setInsert_sorted h0 l1) (foldr_setInsert_sorted h0 l2)
    fun x => by rw [mem_foldr_setInsert, mem_foldr_setInsert, h x]

/-- the canonical (sorted, duplicate-free) form of a collection of addresses -/
def canon (l : List Nat) : List Nat := l.foldr setInsert []

theorem canon_sorted (l : List Nat) : Sorted (canon l) := foldr_setInsert_sorted List.Pairwise.nil l

theorem mem_canon (x : Nat) (l : List Nat) : x ∈ canon l ↔ x ∈ l := by simp [canon, mem_foldr_setInsert]

/-- **the canonical form depends on the set only**, not on order or multiplicity -/
theorem canon_perm (l1 l2 : List Nat) (h : ∀ x, x ∈ l1 ↔ x ∈ l2) : canon l1 = canon l2 :=
  foldr_setInsert_ext List.Pairwise.nil l1 l2 h

theorem touched_foldl (as : List Nat) (j : Journal) : (as.foldl touch j).touched = as.reverse.foldr setInsert j.touched := by
  induction as generalizing j with
  | nil => rfl
  | cons a as ih => rw [List.foldl_cons, ih, List.reverse_cons, List.foldr_append]; rfl

/-- **C01 (touched set).** Two executions that touch the same accounts — in any order, any number of
times, as a Go map would record them — end with the same journal entry. -/
theorem C01_touched_order_irrelevant (j : Journal) (as bs : List Nat) (hs : Sorted j.touched)
    (hsame : ∀ x, x ∈ as ↔ x ∈ bs) : (as.foldl touch j).touched = (bs.foldl touch j).touched := by
  rw [touched_foldl, touched_foldl]
  exact foldr_setInsert_ext hs _ _ fun x => by rw [List.mem_reverse, List.mem_reverse, hsame x]

/-- **C01 (commit).** The commit loop ranges the sorted slice of the touched set: whatever order the map
iteration produced, the committed world (accounts destroyed, coins burnt, events emitted) is the same. -/
theorem C01_commit_order_independent (de : Bool) (sd : List Addr) (order1 order2 : List Addr) (w : World)
    (hsame : ∀ x, x ∈ order1 ↔ x ∈ order2) :
    commitLoop de sd (canon order1) w = commitLoop de sd (canon order2) w := by
  rw [canon_perm order1 order2 hsame]

/-! ## copying a map by ranging over it -/

/-- the entries of a Go map: distinct keys -/
def DistinctKeys {K V : Type} (es : List (K × V)) : Prop := (es.map (·.1)).Nodup

theorem foldl_set_congr {K V : Type} [DecidableEq K] (es : List (K × V)) {m m' : KMap K V}
    (h : ∀ k, m.get k = m'.get k) (k : K) :
    (es.foldl (fun m e => m.set e.1 e.2) m).get k = (es.foldl (fun m e => m.set e.1 e.2) m').get k := by
  induction es generalizing m m' with
  | nil => exact h k
  | cons e es ih => exact ih fun k => by rw [KMap.get_set, KMap.get_set, h k]

/-- **C01 (map copies).** `Copy()` of the access list, the transient storage and the account trackers
ranges over a Go map and inserts into a fresh one: the result is the same map for every iteration order. -/
theorem C01_map_copy_order_independent {K V : Type} [DecidableEq K] (es es' : List (K × V)) (m : KMap K V)
    (hp : es.Perm es') (hd : DistinctKeys es) (k : K) :
    (es.foldl (fun m e => m.set e.1 e.2) m).get k = (es'.foldl (fun m e => m.set e.1 e.2) m).get k := by
  induction hp generalizing m with
  | nil => rfl
  | cons x _ ih => exact ih _ (List.nodup_cons.1 hd).2
  | swap x y l =>
    -- two writes to different keys commute as far as `get` can tell
    have hne : y.1 ≠ x.1 := fun e => (List.nodup_cons.1 hd).1 (List.mem_map.2 ⟨x, List.mem_cons_self, e.symm⟩)
    refine foldl_set_congr l (fun k' => ?_) k
    rw [KMap.get_set, KMap.get_set, KMap.get_set, KMap.get_set]
    by_cases hx : k' = x.1
    · rw [if_pos hx, if_neg (hx ▸ hne.symm), if_pos hx]
    · rw [if_neg hx, if_neg hx]
  | trans h1 _ ih1 ih2 => exact (ih1 m hd).trans (ih2 m ((h1.map _).nodup_iff.1 hd))

/-! ## node-local configuration -/

inductive ExecMode where
  | check | recheck | simulate | deliver
deriving DecidableEq

/-- `getMinGasPricesAllowed`: base fee, the validator's own minimum only in check (not re-check) mode,
then the global minimum -/
def minGasPricesAllowed (mode : ExecMode) (baseFee nodeMin globalMin : Nat) : Nat :=
  let a := if mode = .check then max baseFee nodeMin else baseFee
  max a globalMin

/-- **C01 (node configuration).** Outside mempool admission the price floor is a function of consensus
state only. -/
theorem C01_deliver_ignores_node_config (mode : ExecMode) (hm : mode ≠ .check) (base n1 n2 g : Nat) :
    minGasPricesAllowed mode base n1 g = minGasPricesAllowed mode base n2 g := by
  unfold minGasPricesAllowed; simp [hm]

/-! non-vacuity -/
example : canon [5, 3, 9, 3] = canon [9, 5, 3] := by decide
example : minGasPricesAllowed .check 7 100 3 ≠ minGasPricesAllowed .check 7 5 3 := by decide

end Evermint
