import EvermintModel.Model.CreateAddr
import EvermintModel.Proofs.Keccak
/-!
# C13 / C17 — the pre-image of the CREATE address determines (sender, nonce)

`C13_create_roundtrip`: decoding the RLP of `[sender, nonce]` gives the pair back, for every 20-byte sender and every
nonce (no bound).  Hence `C13_create_preimage_injective`: two different (sender, nonce) pairs never have the same
pre-image, so — for a collision-free hash, the standing assumption of C19 — a created-contract address names one
(sender, nonce), and the addresses the precompile registry derives from (module account, 0), (module account, 1), …
are pairwise different (`C17_registry_preimages_distinct`).

The functions are executable: the driver computes `createAddress` with the Keccak-256 of `Model/Keccak.lean` for
every contract address reported by a real receipt (E-block) and for every deployed precompile (E-cpc) and the
result is compared with what the code reports.
-/
namespace Evermint.CreateAddr

theorem ofBE_append_single (xs : List UInt8) (b : UInt8) : ofBE (xs ++ [b]) = ofBE xs * 256 + b.toNat := by
  simp [ofBE, List.foldl_append]

theorem ofBE_beBytesF : ∀ (f n : Nat), n ≤ f → ofBE (beBytesF f n) = n
  | 0, n, h => by
    have : n = 0 := by omega
    subst this; rfl
  | f + 1, n, h => by
    unfold beBytesF
    by_cases h0 : n = 0
    · subst h0; rfl
    · rw [if_neg h0, ofBE_append_single, UInt8.toNat_ofNat', ofBE_beBytesF f (n / 256) (by omega)]
      omega

theorem ofBE_beBytes (n : Nat) : ofBE (beBytes n) = n := ofBE_beBytesF n n (Nat.le_refl n)

theorem decodeNat_rlpNat (n : Nat) : decodeNat (rlpNat n) = n := by
  unfold rlpNat
  by_cases h0 : n = 0
  · subst h0; simp [decodeNat]
  · rw [if_neg h0]
    by_cases h1 : n < 128
    · rw [if_pos h1]
      have ht : (UInt8.ofNat n).toNat = n := by
        simp [UInt8.toNat_ofNat']; omega
      simp [decodeNat, ht, h1]
    · rw [if_neg h1]
      have hs := ofBE_beBytes n
      cases hb : beBytes n with
      | nil => rw [hb] at hs; simp [ofBE] at hs; omega
      | cons x xs => simp only [decodeNat]; rw [← hb]; exact hs

theorem C13_create_roundtrip (sender : List UInt8) (nonce : Nat) (hl : sender.length = 20) :
    decodeCreate (rlpCreate sender nonce) = (sender, nonce) := by
  unfold decodeCreate rlpCreate
  have h1 : (sender ++ rlpNat nonce).take 20 = sender := by
    rw [← hl]; exact List.take_left' rfl
  have h2 : (sender ++ rlpNat nonce).drop 20 = rlpNat nonce := by
    rw [← hl]; exact List.drop_left' rfl
  simp only [List.cons_append, List.drop_succ_cons, List.drop_zero]
  rw [h1, h2, decodeNat_rlpNat]

theorem C13_create_preimage_injective (s1 s2 : List UInt8) (n1 n2 : Nat) (h1 : s1.length = 20) (h2 : s2.length = 20)
    (h : rlpCreate s1 n1 = rlpCreate s2 n2) : s1 = s2 ∧ n1 = n2 := by
  have := congrArg decodeCreate h
  rwa [C13_create_roundtrip _ _ h1, C13_create_roundtrip _ _ h2, Prod.mk.injEq] at this

/-- for a hash without collisions on these pre-images the address itself determines the pair -/
theorem C13_create_address_injective (H : List UInt8 → List UInt8)
    (hH : ∀ x y, (H x).drop 12 = (H y).drop 12 → x = y)
    (s1 s2 : List UInt8) (n1 n2 : Nat) (h1 : s1.length = 20) (h2 : s2.length = 20)
    (h : createAddress H s1 n1 = createAddress H s2 n2) : s1 = s2 ∧ n1 = n2 :=
  C13_create_preimage_injective s1 s2 n1 n2 h1 h2 (hH _ _ h)

/-- the registry's addresses `CreateAddress(module, 0), CreateAddress(module, 1), …` have pairwise different
pre-images -/
theorem C17_registry_preimages_distinct (module : List UInt8) (hm : module.length = 20) (i j : Nat) (hij : i ≠ j) :
    rlpCreate module i ≠ rlpCreate module j := by
  intro h
  exact hij (C13_create_preimage_injective module module i j hm hm h).2

/-! test vectors (go-ethereum's own: `crypto.CreateAddress(0x970e8128ab834e8eac17ab8e3812f010678cf791, n)`), evaluated by the
kernel with the Keccak-256 of the model; `absorbBlock_eq` sends it through the lane-by-lane round, which it runs far faster -/
def vecSender : List UInt8 := (Keccak.ofHex "970e8128ab834e8eac17ab8e3812f010678cf791").getD []
example : vecSender.length = 20 := by decide +kernel
example : Keccak.toHex (createAddress Keccak.keccak256 vecSender 0) = "333c3310824b7c685133f2bedb2ca4b8b4df633d" := by
  simp only [createAddress, Keccak.keccak256, Keccak.absorbBlock_eq]
  decide +kernel
example : Keccak.toHex (createAddress Keccak.keccak256 vecSender 1) = "8bda78331c916a08481428e4b07c96d3e916d165" := by
  simp only [createAddress, Keccak.keccak256, Keccak.absorbBlock_eq]
  decide +kernel
example : Keccak.toHex (createAddress Keccak.keccak256 vecSender 2) = "c9ddedf451bc62ce88bf9292afb13df35b670699" := by
  simp only [createAddress, Keccak.keccak256, Keccak.absorbBlock_eq]
  decide +kernel

end Evermint.CreateAddr
