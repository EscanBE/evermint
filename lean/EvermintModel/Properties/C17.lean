import EvermintModel.Model.Cpc
/-!
# C17 — custom-precompile registry integrity and exact EVM exposure
Invariants are proved for one step and lifted to every operation sequence by induction.
-/
namespace Evermint.Cpc

/-- index / metadata agreement: `idx d = some a` exactly when `a` stores an ERC-20 precompile for `d` -/
def IdxAgree (s : State) : Prop :=
  ∀ d a, s.idx.get d = some a ↔ ∃ dis, s.metas.get a = some ⟨tyErc20, d, dis⟩

/-- dynamic addresses handed out so far are below the sequence; nothing is stored at or above it -/
def SeqFresh (s : State) : Prop := ∀ n, s.seq ≤ n → s.metas.get (createAddr n) = none

def Inv (s : State) : Prop := IdxAgree s ∧ SeqFresh s

theorem addNew_spec {s s1 : State} {a : Nat} {m : Meta} (h : addNew s a m = some s1) :
    s.metas.get a = none ∧ s1 = { s with metas := s.metas.set a (some m) } := by
  obtain ⟨hn, e⟩ := Option.ite_none_left_eq_some.1 h
  cases e
  exact ⟨by simpa using hn, rfl⟩

/-- what an operation does to the registry: nothing (`refused`), or what the one accepting path of its kind
writes, with what the checks on that path established -/
inductive Effect (s : State) : Op → State → Prop
  | refused {op : Op} : Effect s op s
  | erc20 {sender denom : Nat} (hw : s.whitelist.contains sender = true) (hidx : s.idx.get denom = none)
      (hfree : s.metas.get (createAddr s.seq) = none) :
      Effect s (.deployErc20 sender denom true true)
        { s with seq := s.seq + 1, metas := s.metas.set (createAddr s.seq) (some ⟨tyErc20, denom, false⟩),
                 idx := s.idx.set denom (some (createAddr s.seq)) }
  | staking {sender : Nat} (hw : s.whitelist.contains sender = true) (hfree : s.metas.get stakingAddr = none) :
      Effect s (.deployStaking sender true) { s with metas := s.metas.set stakingAddr (some ⟨tyStaking, 0, false⟩) }
  | params {v : Nat} {wl : List Nat} (hv : s.version ≤ v) (hpos : 0 < v) (hmax : v ≤ latestVersion) :
      Effect s (.updateParams true true v wl) { s with version := v, whitelist := wl }
  | flag {a : Nat} {d : Bool} {m : Meta} (hm : s.metas.get a = some m) :
      Effect s (.setDisabled a d) { s with metas := s.metas.set a (some { m with disabled := d }) }

/-- `cases` cannot take this apart as it stands (the index `(step s op).1` mentions `s`): users first
`generalize (step s op).1 = s'` -/
theorem step_cases (s : State) (op : Op) : Effect s op (step s op).1 := by
  cases op with
  | deployErc20 sender denom mv sp =>
    simp only [step]
    iterate 4 (split; · exact .refused)
    rename_i hw hmv hidx hsp
    split
    · exact .refused
    · rename_i s1 h5
      obtain ⟨hn, rfl⟩ := addNew_spec h5
      simp only [Bool.not_eq_true, Bool.not_eq_false', Option.isSome_iff_ne_none, ne_eq, Decidable.not_not] at hw hmv hidx hsp
      subst hmv hsp
      exact .erc20 hw hidx hn
  | deployStaking sender mv =>
    simp only [step]
    iterate 2 (split; · exact .refused)
    rename_i hw hmv
    split
    · exact .refused
    · rename_i s1 h5
      obtain ⟨hn, rfl⟩ := addNew_spec h5
      simp only [Bool.not_eq_true, Bool.not_eq_false'] at hw hmv
      subst hmv
      exact .staking hw hn
  | updateParams aok pv v wl =>
    simp only [step]
    iterate 3 (split; · exact .refused)
    rename_i haok hpv hver
    simp only [Bool.not_eq_true, Bool.not_eq_false', Bool.or_eq_true, decide_eq_true_eq, not_or] at haok hpv
    obtain ⟨⟨rfl, h0⟩, hmax⟩ := hpv
    subst haok
    exact .params (by omega) (by omega) (by omega)
  | setDisabled a d =>
    simp only [step]
    split
    · exact .refused
    · exact .flag ‹_›

theorem createAddr_inj {m n : Nat} (h : createAddr m = createAddr n) : m = n := by
  unfold createAddr at h; omega

theorem createAddr_ne_fixed (n : Nat) : createAddr n ≠ stakingAddr ∧ createAddr n ≠ bech32Addr := by
  unfold createAddr stakingAddr bech32Addr; constructor <;> omega

/-- all `IdxAgree` sees of an entry is for which denominations it is an ERC-20 precompile (`herc`): that covers a new
entry of another type as well as a changed flag -/
theorem inv_set_meta {s : State} {a : Nat} {v : Option Meta} (h : Inv s)
    (herc : ∀ d, (∃ dis, v = some ⟨tyErc20, d, dis⟩) ↔ ∃ dis, s.metas.get a = some ⟨tyErc20, d, dis⟩)
    (hdyn : ∀ n, s.seq ≤ n → createAddr n ≠ a) :
    Inv { s with metas := s.metas.set a v } := by
  refine ⟨fun d a' => ?_, fun n hn => ?_⟩
  · show s.idx.get d = some a' ↔ ∃ dis, (s.metas.set a v).get a' = some ⟨tyErc20, d, dis⟩
    rw [h.1 d a', KMap.get_set]
    split
    · rename_i e; rw [e]; exact (herc d).symm
    · rfl
  · show (s.metas.set a v).get (createAddr n) = none
    rw [KMap.get_set_ne _ _ _ _ (hdyn n hn)]
    exact h.2 n hn

theorem inv_add_fixed {s : State} {a : Nat} {m : Meta} (h : Inv s) (hn : s.metas.get a = none)
    (hty : m.ty ≠ tyErc20) (hdyn : ∀ n, createAddr n ≠ a) :
    Inv { s with metas := s.metas.set a (some m) } :=
  inv_set_meta h (fun d => ⟨fun ⟨_, e⟩ => absurd (by cases e; rfl) hty, fun ⟨_, e⟩ => by rw [hn] at e; cases e⟩)
    fun n _ => hdyn n

theorem inv_deployErc20 {s : State} {denom : Nat} (h : Inv s) (hidx : s.idx.get denom = none) :
    Inv { s with seq := s.seq + 1, metas := s.metas.set (createAddr s.seq) (some ⟨tyErc20, denom, false⟩),
                 idx := s.idx.set denom (some (createAddr s.seq)) } := by
  obtain ⟨hi, hf⟩ := h
  have hn := hf s.seq (Nat.le_refl _)
  refine ⟨fun d a => ?_, fun n hn' => ?_⟩
  · show (s.idx.set denom (some (createAddr s.seq))).get d = some a ↔
      ∃ dis, (s.metas.set (createAddr s.seq) (some ⟨tyErc20, denom, false⟩)).get a = some ⟨tyErc20, d, dis⟩
    rw [KMap.get_set, KMap.get_set]
    by_cases hd : d = denom <;> by_cases ha : a = createAddr s.seq
    · simp [hd, ha]
    · -- another address registered for `denom` would have been in the index
      subst hd
      rw [if_pos rfl, if_neg ha, ← hi, hidx]
      simp [Ne.symm ha]
    · -- the index never points at an address not handed out yet
      subst ha
      rw [if_neg hd, if_pos rfl, hi, hn]
      simp [Ne.symm hd]
    · rw [if_neg hd, if_neg ha]; exact hi d a
  · show (s.metas.set (createAddr s.seq) _).get (createAddr n) = none
    have hlt : s.seq + 1 ≤ n := hn'
    rw [KMap.get_set_ne _ _ _ _ fun e => by have := createAddr_inj e; omega]
    exact hf n (by omega)

/-- **C17 (type never changes; entries are never overwritten or removed).** -/
theorem C17_type_immutable (s : State) (op : Op) (a : Nat) (m : Meta) (h : s.metas.get a = some m) :
    ∃ m', (step s op).1.metas.get a = some m' ∧ m'.ty = m.ty ∧ m'.denom = m.denom := by
  have add : ∀ a' v, s.metas.get a' = none → ∃ m', (s.metas.set a' v).get a = some m' ∧ m'.ty = m.ty ∧ m'.denom = m.denom :=
    fun a' v hn => ⟨m, by rw [KMap.get_set_ne _ _ _ _ fun e => by rw [e, hn] at h; cases h]; exact h, rfl, rfl⟩
  have hs := step_cases s op
  generalize (step s op).1 = s' at hs ⊢
  cases hs with
  | refused | params => exact ⟨m, h, rfl, rfl⟩
  | erc20 _ _ hn | staking _ hn => exact add _ _ hn
  | @flag a' d m0 hg =>
    show ∃ m', (s.metas.set a' (some { m0 with disabled := d })).get a = some m' ∧ _
    rw [KMap.get_set]
    split
    · rename_i e
      rw [e, hg] at h; cases h
      exact ⟨_, rfl, rfl, rfl⟩
    · exact ⟨m, h, rfl, rfl⟩

theorem step_version (s : State) (op : Op) :
    (step s op).1.version = s.version ∨ (∃ a b c d, op = .updateParams a b c d) ∧ s.version ≤ (step s op).1.version := by
  have hs := step_cases s op
  generalize (step s op).1 = s' at hs ⊢
  cases hs with
  | params hv => exact .inr ⟨⟨_, _, _, _, rfl⟩, hv⟩
  | _ => exact .inl rfl

/-- **C17 (protocol version never decreases).** -/
theorem C17_version_monotone (s : State) (op : Op) : s.version ≤ (step s op).1.version := by
  rcases step_version s op with h | ⟨_, h⟩
  · rw [h]; exact Nat.le_refl _
  · exact h

/-- **C17 (only whitelisted senders add contracts; ERC-20 only for a denomination with positive supply
and no existing precompile).** -/
theorem C17_only_whitelisted_add (s : State) (op : Op) (a : Nat) (h0 : s.metas.get a = none)
    (h1 : ((step s op).1.metas.get a).isSome = true) :
    (∃ sender denom, op = .deployErc20 sender denom true true ∧ s.whitelist.contains sender = true ∧ s.idx.get denom = none ∧ a = createAddr s.seq) ∨
    (∃ sender, op = .deployStaking sender true ∧ s.whitelist.contains sender = true ∧ a = stakingAddr) := by
  have at_a : ∀ a' v, ((s.metas.set a' v).get a).isSome = true → a = a' := fun a' v h =>
    Decidable.byContradiction fun e => by rw [KMap.get_set_ne _ _ _ _ e, h0] at h; cases h
  have hs := step_cases s op
  generalize (step s op).1 = s' at hs h1
  cases hs with
  | refused | params => rw [h0] at h1; cases h1
  | erc20 hw hi => exact .inl ⟨_, _, rfl, hw, hi, at_a _ _ h1⟩
  | staking hw => exact .inr ⟨_, rfl, hw, at_a _ _ h1⟩
  | flag hg => rw [← at_a _ _ h1, h0] at hg; cases hg

theorem inv_step (s : State) (op : Op) (h : Inv s) : Inv (step s op).1 := by
  have hs := step_cases s op
  generalize (step s op).1 = s' at hs ⊢
  cases hs with
  | refused | params => exact h
  | erc20 _ hidx => exact inv_deployErc20 h hidx
  | staking _ hn => exact inv_add_fixed h hn (by decide) fun n => (createAddr_ne_fixed n).1
  | @flag a d m hg =>
    -- type and denomination of the entry stay, and the flag is quantified away on both sides
    refine inv_set_meta h (fun d' => ?_) fun n hn e => by rw [← e, h.2 n hn] at hg; cases hg
    rw [hg]
    cases m
    simp only [Option.some.injEq, Meta.mk.injEq, exists_and_left, exists_eq', and_true]

/-- **C17 (invariants over every operation sequence).** -/
theorem C17_inv_run (s : State) (ops : List Op) (h : Inv s) : Inv (run s ops) :=
  List.foldlRecOn (motive := Inv) ops _ h fun s hs o _ => inv_step s o hs

/-- **C17 (at most one ERC-20 precompile per denomination).** -/
theorem C17_one_erc20_per_denom (s : State) (h : Inv s) (d a b : Nat) (da db : Bool)
    (ha : s.metas.get a = some ⟨tyErc20, d, da⟩) (hb : s.metas.get b = some ⟨tyErc20, d, db⟩) : a = b :=
  Option.some.inj (((h.1 d a).2 ⟨da, ha⟩).symm.trans ((h.1 d b).2 ⟨db, hb⟩))

/-- **C17 (exact exposure).** Exactly the registered, enabled contracts are callable. -/
theorem C17_exposure (s : State) (a : Nat) :
    callable s a = true ↔ ∃ m, s.metas.get a = some m ∧ m.disabled = false := by
  unfold callable
  cases h : s.metas.get a with
  | none => simp
  | some m => cases hd : m.disabled <;> simp [hd]

theorem empty_inv : Inv empty := ⟨fun d a => by simp [empty], fun n _ => rfl⟩

theorem step_keeps_none (s : State) (op : Op) (a : Nat) (h0 : s.metas.get a = none)
    (ha1 : ∀ n, a ≠ createAddr n) (ha2 : a ≠ stakingAddr) : (step s op).1.metas.get a = none := by
  cases h : (step s op).1.metas.get a with
  | none => rfl
  | some m =>
    exfalso
    rcases C17_only_whitelisted_add s op a h0 (by rw [h]; rfl) with ⟨_, _, _, _, _, e⟩ | ⟨_, _, _, e⟩
    · exact ha1 _ e
    · exact ha2 e

/-- **C17 (every genesis flag combination).** The state built by `InitGenesis` satisfies the invariants,
always contains the bech32 contract, and contains nothing but what the flags ask for. -/
theorem C17_genesis_inv (v : Nat) (wl : List Nat) (e st : Bool) (bond : Nat) :
    Inv (genesis v wl e st bond) ∧ (genesis v wl e st bond).metas.get bech32Addr = some ⟨tyBech32, 0, false⟩ ∧
    (genesis v wl e st bond).version = v ∧ (genesis v wl e st bond).whitelist = wl := by
  -- what the optional deployments keep true until bech32 is added
  let P (s : State) : Prop := Inv s ∧ s.metas.get bech32Addr = none ∧ s.version = v
  have hopt : ∀ (b : Bool) (s : State) (op : Op), (∀ a b c d, op ≠ .updateParams a b c d) → P s →
      P (if b then (step s op).1 else s) := by
    intro b s op hop ⟨hi, hn, hv⟩
    split
    · exact ⟨inv_step s op hi, step_keeps_none s op _ hn (fun n e => (createAddr_ne_fixed n).2 e.symm) (by decide),
        ((step_version s op).resolve_right fun ⟨⟨_, _, _, _, h⟩, _⟩ => hop _ _ _ _ h).trans hv⟩
    · exact ⟨hi, hn, hv⟩
  obtain ⟨hi, hn, hv⟩ := hopt st _ (.deployStaking 0 true) (fun _ _ _ _ h => by cases h)
    (hopt e { empty with version := v, whitelist := [0] } (.deployErc20 0 bond true true) (fun _ _ _ _ h => by cases h)
      ⟨empty_inv, rfl, rfl⟩)
  exact ⟨inv_add_fixed hi hn (by decide) fun n => (createAddr_ne_fixed n).2, KMap.get_set_eq .., hv, rfl⟩

/-! non-vacuity -/
example : (step (genesis 1 [7] false false 0) (.deployErc20 7 3 true true)).2 = .ok (createAddr 0) := by decide
example : (step (genesis 1 [7] false false 0) (.deployErc20 8 3 true true)).2 = .unauthorized := by decide
example : (step (step (genesis 1 [7] false false 0) (.deployErc20 7 3 true true)).1 (.deployErc20 7 3 true true)).2 = .conflict := by decide
example : callable (step (genesis 1 [7] true true 0) (.setDisabled stakingAddr true)).1 stakingAddr = false := by decide

end Evermint.Cpc
