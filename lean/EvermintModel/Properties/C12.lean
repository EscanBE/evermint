import EvermintModel.Model.CallTree
import EvermintModel.Properties.C10
/-!
# C12 — read-only EVM contexts cannot change state through custom precompiles

The full statement ("inside a STATICCALL context no call to a custom precompile can change any state or
emit a log, however deeply nested and whichever call opcode is used") is **false** of the pinned fork
(`C12_full_fails`, finding F6): write protection is decided from the call-site literal only.  Proved:
the direct STATICCALL edge is refused for every write method; a STATICCALL frame whose write calls all
use a STATICCALL edge changes nothing (`C12_static_partial`); view methods never write in any context;
and the table obligations (read-only ⇒ no write API reachable, state-changing ⇒ gas > 0) in `Facts/Cpc.lean`.
-/
namespace Evermint.CallTree
open Evermint.Erc20

/-- **C12 (direct edge).** A state-changing method reached by STATICCALL itself is refused: nothing
changes, no log. -/
theorem C12_direct_static_refused (x : St) (self tok : Nat) (m : Method) (hw : isWrite m = true) :
    callPc x self .staticcall tok m = x := by
  unfold callPc; simp [readOnlyArg, hw]

/-- **C12 (views).** Methods declared read-only change no state and emit no log, from any context and
through any call opcode. -/
theorem C12_views_never_write (x : St) (self : Nat) (k : Kind) (tok : Nat) (m : Method) (hv : isWrite m = false) :
    callPc x self k tok m = x := by
  unfold callPc
  rw [hv, Bool.and_false, if_neg Bool.false_ne_true]
  rcases step_cases x.s ⟨tok, self, m⟩ with hr | ⟨d, _, _, _, hd, _, _⟩
  · rw [hr]
  · obtain ⟨hb, ht, ha⟩ := C10_views_exact x.s tok self d hd
    cases m with
    | balanceOf a => simp [hb]
    | totalSupply => simp [ht]
    | allowance o sp => simp [ha]
    | _ => cases hv

/-- the full-strength statement of the property for the ERC-20 precompiles -/
def C12_full : Prop :=
  ∀ (x : St) (self target : Nat) (body : List Act) (rev : Bool),
    execAct x self (.sub .staticcall target body rev) = x

/-- **C12 fails as stated (F6).** `STATICCALL → contract 6 → CALL → erc20(50).transfer(2, 7)`: 7 coins
move and a `Transfer` log is emitted inside the read-only context. -/
theorem C12_full_fails : ¬ C12_full := by
  intro h
  have h1 := h ⟨{ w0 with bal := w0.bal.set (6, 0) 100 }, []⟩ 5 6 [.pc .call 50 (.transfer 2 7)] false
  have h2 : (execAct ⟨{ w0 with bal := w0.bal.set (6, 0) 100 }, []⟩ 5 (.sub .staticcall 6 [.pc .call 50 (.transfer 2 7)] false)).logs.length = 1 := by
    decide
  rw [h1] at h2
  cases h2

mutual
/-- every state-changing precompile call in the tree is made through a STATICCALL edge (so it is refused) -/
def Act.guarded : Act → Bool
  | .pc k _ m => !isWrite m || k == .staticcall
  | .sub _ _ body _ => guardedList body
def guardedList : List Act → Bool
  | [] => true
  | a :: as => a.guarded && guardedList as
end

mutual
theorem execAct_guarded : ∀ (a : Act) (x : St) (self : Nat), a.guarded = true → execAct x self a = x
  | .pc k tok m, x, self, h => by
    unfold execAct
    unfold Act.guarded at h
    cases hw : isWrite m with
    | false => exact C12_views_never_write x self k tok m hw
    | true =>
      obtain rfl : k = .staticcall := by simpa [hw] using h
      exact C12_direct_static_refused x self tok m hw
  | .sub k target body rev, x, self, h => by
    unfold execAct
    unfold Act.guarded at h
    simp only [execList_guarded body x (nextSelf self k target) h, ite_self]
theorem execList_guarded : ∀ (as : List Act) (x : St) (self : Nat), guardedList as = true → execList x self as = x
  | [], x, self, _ => by unfold execList; rfl
  | a :: as, x, self, h => by
    unfold execList
    unfold guardedList at h
    rw [Bool.and_eq_true] at h
    rw [execAct_guarded a x self h.1]
    exact execList_guarded as x self h.2
end

/-- **C12 (partial).** A STATICCALL frame — of any depth and shape — in which every state-changing
precompile call uses a STATICCALL edge changes no state and emits no log. -/
theorem C12_static_partial (x : St) (self target : Nat) (body : List Act) (rev : Bool)
    (hg : guardedList body = true) : execAct x self (.sub .staticcall target body rev) = x :=
  execAct_guarded (.sub .staticcall target body rev) x self (by unfold Act.guarded; exact hg)

/-- **C03 (call-tree form).** A frame that ends with REVERT leaves no trace, whatever it did inside,
including writes of precompiles into other modules. -/
theorem C03_reverted_frame_no_trace (x : St) (self target : Nat) (k : Kind) (body : List Act) :
    execAct x self (.sub k target body true) = x := by
  unfold execAct; simp

/-! non-vacuity -/
example : (execAct ⟨{ w0 with bal := w0.bal.set (6, 0) 100 }, []⟩ 5 (.sub .call 6 [.pc .call 50 (.transfer 2 7)] false)).s.bal.get (2, 0) = 7 := by decide
example : guardedList [.sub .call 6 [.pc .staticcall 50 (.transfer 2 7), .pc .call 50 (.balanceOf 2)] false] = true := by decide

end Evermint.CallTree
