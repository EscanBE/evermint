import EvermintModel.Model.StateDB
import EvermintModel.Proofs.World
/-!
# C02 — EVM transactions execute as go-ethereum's reference state transition  *(partial)*

go-ethereum's `state.StateDB` is specified as a plain value (`G`): balance, nonce, code and storage
functions with function-update writes.  The context-based StateDB of evermint (model `updBody` over
`World`, tied to the real `cStateDb` by E-statedb) is proved to **simulate** it for every write primitive
the interpreter uses: after the call, the abstraction of evermint's world is exactly the reference state
updated by the reference operation — under the side conditions the proof forces, each of which is a
documented place where evermint differs by design (bank block-list, vesting locks, multi-denomination
accounts).  Snapshot / revert is the value copy of the reference by `C03_revert_exact`.

Not proved here (trusted base item 5): that the interpreter touches state only through these
primitives, and the interpreter itself.  The tie for whole transactions is E-geth (real evermint
`ApplyMessage` vs real go-ethereum `core.ApplyMessage` on mirrored states).
-/
namespace Evermint

/-- the reference state: what go-ethereum's StateDB getters return -/
structure G where
  bal : Addr → Nat
  nonce : Addr → Nat
  code : Addr → Nat
  st : Addr → Nat → Nat

def upd {β : Type} (f : Addr → β) (a : Addr) (v : β) : Addr → β := fun x => if x = a then v else f x

namespace G
def addBalance (g : G) (a : Addr) (n : Nat) : G := { g with bal := upd g.bal a (g.bal a + n) }
def subBalance (g : G) (a : Addr) (n : Nat) : G := { g with bal := upd g.bal a (g.bal a - n) }
def setNonce (g : G) (a : Addr) (n : Nat) : G := { g with nonce := upd g.nonce a n }
def setCode (g : G) (a : Addr) (c : Nat) : G := { g with code := upd g.code a c }
def setState (g : G) (a : Addr) (k v : Nat) : G := { g with st := upd g.st a (upd (g.st a) k v) }
end G

/-- abstraction: the EVM denomination of the bank, the auth sequence, the code-hash table, the storage -/
def absG (w : World) : G :=
  { bal := fun a => w.balOf a evmDenom,
    nonce := fun a => match w.acc.get a with | some ac => ac.seq | none => 0,
    code := fun a => w.codeHash.get a,
    st := fun a k => getState w a k }

def nonceOf (w : World) (x : Addr) : Nat := match w.acc.get x with | some ac => ac.seq | none => 0

theorem nonceOf_ensureAcc (w : World) (a x : Addr) : nonceOf (w.ensureAcc a) x = nonceOf w x := by
  unfold nonceOf
  rw [World.ensureAcc_acc_get]
  by_cases h : x = a ∧ w.acc.get a = none
  · -- the record created has sequence 0, which is what an absent account reads as
    rw [if_pos h, h.1, h.2]
  · rw [if_neg h]

theorem absG_bal (w : World) (x : Addr) : (absG w).bal x = w.balOf x evmDenom := rfl
theorem absG_code (w : World) (x : Addr) : (absG w).code x = w.codeHash.get x := rfl
theorem absG_st (w : World) (x : Addr) (k : Nat) : (absG w).st x k = (w.storage.get (pair x k)).getD 0 := rfl

theorem absG_ensureAcc (w : World) (a : Addr) : absG (w.ensureAcc a) = absG w := by
  unfold absG getState
  congr 1
  · funext x; exact World.balOf_ensureAcc ..
  · exact funext (nonceOf_ensureAcc w a)
  · rw [World.ensureAcc_codeHash]
  · rw [World.ensureAcc_storage]

theorem absG_setAcc (w : World) (a : Addr) (ac : Acc) :
    absG { w with acc := w.acc.set a (some ac) } = (absG w).setNonce a ac.seq :=
  congrArg (fun f => { absG w with nonce := f }) <| funext fun x => by
    show nonceOf _ x = upd (nonceOf w) a ac.seq x
    unfold nonceOf upd
    rw [FMap.get_set]
    by_cases hx : x = a
    · rw [if_pos hx, if_pos hx]
    · rw [if_neg hx, if_neg hx]

theorem absG_setCodeHash (w : World) (a : Addr) (c : Nat) :
    absG { w with codeHash := w.codeHash.set a c } = (absG w).setCode a c :=
  congrArg (fun f => { absG w with code := f }) <| funext fun _ => FMap.get_set ..

/-- **C02 (SetNonce).** -/
theorem C02_setNonce_sim (orig w w' : World) (j j' : Journal) (r : String) (a : Addr) (n : Nat)
    (h : updBody orig w j (.setNonce a n) = .ok (w', j', r)) : absG w' = (absG w).setNonce a n := by
  unfold updBody at h
  simp only [] at h
  split at h
  · cases h; rw [← absG_ensureAcc w a]; exact absG_setAcc ..
  · cases h

/-- **C02 (SetCode).** -/
theorem C02_setCode_sim (orig w w' : World) (j j' : Journal) (r : String) (a : Addr) (c : Nat)
    (h : updBody orig w j (.setCode a c) = .ok (w', j', r)) : absG w' = (absG w).setCode a c := by
  cases h; rw [← absG_ensureAcc w a]; exact absG_setCodeHash ..

/-- **C02 (SetState).** A zero value is stored, not deleted — observably the same as geth's deletion
through `GetState` (both read zero). -/
theorem C02_setState_sim (orig w w' : World) (j j' : Journal) (r : String) (a : Addr) (k v : Nat)
    (h : updBody orig w j (.setState a k v) = .ok (w', j', r))
    (hkeys : ∀ (x : Addr) (k' : Nat), k' < 4096 → (pair x k' = pair a k ↔ x = a ∧ k' = k)) :
    ∀ x k', k' < 4096 → (absG w').st x k' = ((absG w).setState a k v).st x k' := by
  cases h
  intro x k' hk'
  rw [absG_st]
  simp only [G.setState, World.ensureAcc_storage, FMap.get_set, hkeys x k' hk']
  by_cases hx : x = a
  · subst hx; by_cases hk : k' = k <;> simp [hk, upd, absG_st]
  · simp [hx, upd, absG_st]

/-- **C02 (AddBalance).** For a recipient that is not the EVM module account and not on the bank
block-list (a blocked recipient aborts the transaction — a documented difference), the EVM-denomination
balance of exactly that account grows by `n`; nonce, code and storage of every account are untouched. -/
theorem C02_addBalance_sim (orig w w' : World) (j j' : Journal) (r : String) (a : Addr) (n : Nat)
    (ha : a ≠ w.evmMod) (h : updBody orig w j (.addBalance a n) = .ok (w', j', r)) :
    (absG w').bal a = (absG w).bal a + n ∧ (absG w').bal w.evmMod = (absG w).bal w.evmMod := by
  obtain ⟨w1, hm, h⟩ := ok_of_bind h
  cases h
  have e := World.mintTo_effect evmDenom_lt hm ha
  exact ⟨e.balOf, e.balOf_mod⟩

/-- **C02 (SubBalance).** Succeeds only within the balance (and, by design, within the *spendable*
balance of a vesting account); exactly `n` leaves the account. -/
theorem C02_subBalance_sim (orig w w' : World) (j j' : Journal) (r : String) (a : Addr) (n : Nat)
    (ha : a ≠ w.evmMod) (h : updBody orig w j (.subBalance a n) = .ok (w', j', r)) :
    n ≤ (absG w).bal a ∧ (absG w').bal a = (absG w).bal a - n ∧ (absG w').bal w.evmMod = (absG w).bal w.evmMod := by
  obtain ⟨w1, hm, h⟩ := ok_of_bind h
  cases h
  have e := World.burnFrom_effect evmDenom_lt hm ha
  exact ⟨Nat.le_trans (World.burnFrom_le hm) (World.spendable_le ..), e.balOf, e.balOf_mod⟩

/-! ### the documented differences, as lemmas -/

/-- D1: a zero-value credit to an absent address does not create an account (go-ethereum creates an empty
object; the interpreter only observes this through `Exist` under pre-EIP-158 rules, which are never active) -/
theorem C02_diff_zero_credit_creates_nothing (orig w : World) (j : Journal) (a : Addr) (hn : w.acc.get a = none) :
    ∃ j', updBody orig w j (.addBalance a 0) = .ok (w, j', "ok") ∧ w.acc.get a = none :=
  ⟨touch j a, rfl, hn⟩

/-- D3: an account whose only content is a storage entry is *not* empty for evermint (`IsEmptyAccount` looks
at storage), so it is not swept by the EIP-158 rule -/
theorem C02_diff_storage_only_not_empty (w : World) (a : Addr) (h : w.hasStorage a = true) : w.isEmpty a = false := by
  unfold World.isEmpty; simp [h]

/-- F11: the fork builds the custom-precompile address list with `make([]Address, n)` **and** `append`:
the list handed to `PrepareAccessList` starts with `n` zero addresses -/
def forkCustomPrecompileList (registered : List Addr) : List Addr := List.replicate registered.length 0 ++ registered

theorem C02_zero_address_warm (registered : List Addr) (h : registered ≠ []) : 0 ∈ forkCustomPrecompileList registered := by
  unfold forkCustomPrecompileList
  cases registered with
  | nil => exact absurd rfl h
  | cons x xs => simp [List.replicate_succ]

/-! non-vacuity -/
def wg : World :=
  { acc := (FMap.empty none).set 1 (some ⟨.module, 0, 1⟩), bal := (FMap.empty 0).set (pair 7 0) 50, supply := (FMap.empty 0).set 0 50,
    codeHash := FMap.empty 0, storage := FMap.empty none, allow := FMap.empty 0, nextAcc := 3, events := 0, now := 50, evmMod := 1, blocked := [1] }
example : ∃ w' j' r, updBody wg wg {} (.addBalance 7 5) = .ok (w', j', r) ∧ (absG w').bal 7 = 55 := by
  refine ⟨_, _, _, rfl, ?_⟩; decide
example : ∃ w' j' r, updBody wg wg {} (.setNonce 9 4) = .ok (w', j', r) ∧ (absG w').nonce 9 = 4 := by
  refine ⟨_, _, _, rfl, ?_⟩; decide

end Evermint
