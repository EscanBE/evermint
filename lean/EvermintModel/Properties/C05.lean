import EvermintModel.Proofs.Block
/-!
# C05 — senders are charged exactly gas used × effective price, in every outcome

All statements are about `Block.stepEth` for *every* block state, transaction and execution
summary (no bounds on amounts, prices, gas).  The interpreter enters only through its contract
`gasBefore ≤ gasLimit` (it cannot use more gas than it was given).
-/
namespace Evermint.Block

/-- a transaction refused at admission (or dropped because the block is full) costs nothing and
changes no balance, no sequence, no per-block bookkeeping but the block gas meter -/
theorem C05_rejected_free (s : BState) (t : EthTx) (x : Exec)
    (hadm : admitted (stepEth s t x).2.cls = false) :
    (stepEth s t x).2.dSender = 0 ∧ (stepEth s t x).2.dCollector = 0 ∧ (stepEth s t x).2.dSupply = 0 ∧
    (stepEth s t x).1.bal = s.bal ∧ (stepEth s t x).1.seq = s.seq ∧ (stepEth s t x).1.txCount = s.txCount ∧
    (stepEth s t x).1.gasSlots = s.gasSlots ∧ (stepEth s t x).1.logSlots = s.logSlots := by
  obtain ⟨c, gw, gu, h⟩ := stepEth_of_not_admitted hadm
  rw [h]
  exact ⟨rfl, rfl, rfl, rfl, rfl, rfl, rfl, rfl⟩

/-- the fee collector gains exactly what the sender paid in fees -/
theorem C05_collector_gain (s : BState) (t : EthTx) (x : Exec) (hx : x.gasBefore ≤ t.gasLimit)
    (hadm : admitted (stepEth s t x).2.cls = true) :
    (stepEth s t x).2.dCollector = ((receiptGas t x (stepEth s t x).2.cls * effPrice t s.baseFee : Nat) : Int) := by
  obtain ⟨-, ⟨c, gu, hc, h⟩ | h⟩ := stepEth_of_admitted hadm <;> rw [h]
  · -- failed: the collector keeps the whole fee, and the receipt shows the whole gas limit
    simp [failedOut, noOut, receiptGas_of_failed hc, Nat.mul_comm]
  · -- committed: the fee less the refund for the unused gas is the price of the gas used
    have : (t.gasLimit - x.gasUsed) * effPrice t s.baseFee + x.gasUsed * effPrice t s.baseFee =
        effPrice t s.baseFee * t.gasLimit := by
      rw [← Nat.add_mul, Nat.sub_add_cancel (Nat.le_trans (gasUsed_le x) hx), Nat.mul_comm]
    simp only [committedOut, receiptGas_committed]
    omega

/-- **charge law**: a transaction that passed admission costs its sender exactly
(receipt gas used × effective price) + value actually moved — in every outcome class.
(`toWallet ≠ sender`: a self-transfer nets the value out, stated separately.) -/
theorem C05_charge (s : BState) (t : EthTx) (x : Exec) (hx : x.gasBefore ≤ t.gasLimit)
    (hself : t.toWallet ≠ some t.sender)
    (hadm : admitted (stepEth s t x).2.cls = true) :
    (stepEth s t x).2.dSender =
      -((receiptGas t x (stepEth s t x).2.cls * effPrice t s.baseFee + valueMoved t x (stepEth s t x).2.cls : Nat) : Int) := by
  have h := dSender_add_dCollector s t x
  rw [C05_collector_gain s t x hx hadm, if_neg hself] at h
  omega

/-- self-transfer: the value comes back, only the gas is paid -/
theorem C05_charge_self (s : BState) (t : EthTx) (x : Exec) (hx : x.gasBefore ≤ t.gasLimit)
    (hself : t.toWallet = some t.sender)
    (hadm : admitted (stepEth s t x).2.cls = true) :
    (stepEth s t x).2.dSender = -((receiptGas t x (stepEth s t x).2.cls * effPrice t s.baseFee : Nat) : Int) := by
  have h := dSender_add_dCollector s t x
  rw [C05_collector_gain s t x hx hadm, if_pos hself] at h
  omega

/-- the storage refund never exceeds one fifth of the gas consumed -/
theorem C05_refund_cap (x : Exec) : x.refund ≤ x.gasBefore / 5 := Nat.min_le_left _ _

/-- bounds: gas used ≤ gas limit; and ≥ the intrinsic gas, given that every unit of the refund
counter was paid for by at least one unit of execution gas (a property of geth's gas table:
an SSTORE clear costs 5000 and refunds 4800) -/
theorem C05_bounds (t : EthTx) (x : Exec) (hx : x.gasBefore ≤ t.gasLimit)
    (hcounter : t.intrinsic + x.refundCounter ≤ x.gasBefore) :
    t.intrinsic ≤ x.gasUsed ∧ x.gasUsed ≤ t.gasLimit := by
  refine ⟨?_, Nat.le_trans (gasUsed_le x) hx⟩
  have h1 : x.refund ≤ x.refundCounter := Nat.min_le_right _ _
  unfold Exec.gasUsed
  omega

/-- committed transactions report the same gas used in the consensus result as in the receipt -/
theorem C05_result_eq_receipt (s : BState) (t : EthTx) (x : Exec)
    (hc : (stepEth s t x).2.cls = .ok ∨ (stepEth s t x).2.cls = .vmerr) :
    (stepEth s t x).2.rcptGas = some (stepEth s t x).2.gasUsed := by
  rw [stepEth_of_committed hc]; rfl

/-- the ante handler and the refund use the same price: `EthTxEffectiveGasPrice` (ante) and geth's
`AsMessage` price (refund) are the same expression of (type, fields, base fee) -/
theorem C05_one_price (t : EthTx) (base : Nat) :
    effPrice t base = (if t.ty = 2 then min (t.tip + base) t.feeCap else t.gasPrice) := rfl

/-! ## Non-vacuity -/
def exS : BState := { bal := (FMap.empty 0).set 0 (10^18), seq := FMap.empty 0, baseFee := 10, maxGas := 1000000, minRaw := 0 }
def exT : EthTx := {
  sender := 0
  ty := 2
  gasLimit := 100000
  gasPrice := 0
  feeCap := 50
  tip := 5
  value := 7
  nonce := 0
  create := false
  intrinsic := 21000
  sig := .ok
  toWallet := none
  sdBurn := 0 }
def exX : Exec := { vmErr := false, gasBefore := 61408, refundCounter := 38400, nLogs := 2, panicked := false }
example : (stepEth exS exT exX).2.cls = .ok ∧ (stepEth exS exT exX).2.dSender = -((61408 - 12281) * 15 + 7 : Nat) := by decide +kernel
example : (stepEth exS { exT with nonce := 1 } exX).2.cls = .anteRejected "sdk/3" := by decide +kernel
example : (stepEth exS exT { exX with panicked := true }).2.dSender = -(100000 * 15 : Nat) := by decide +kernel

end Evermint.Block
