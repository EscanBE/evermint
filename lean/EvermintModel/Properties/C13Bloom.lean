import EvermintModel.Model.Bloom
/-!
# C13 — "each receipt's bloom covers exactly its own logs and the block bloom is their union"

For every hash function `H`, every list of logs and every block (list of receipts, each a list of logs):

* `C13_bloom_exact` — bit `j` of a receipt's bloom is set **iff** it is one of the three bits of the address or of a
  topic of one of *its own* logs: nothing is missing (no false negative for an own log, `C13_bloom_covers`) and nothing
  else is set;
* `C13_bloom_union` — the bloom of two log lists together is the OR of their blooms;
* `C13_block_bloom_is_union` — the block bloom that `EndBlock` accumulates receipt by receipt equals the bloom of all
  logs of the block, and bit `j` of it is set iff it is set in some receipt's bloom (`C13_block_bloom_bits`);
* `C13_block_bloom_order` — it does not depend on the order of the receipts;
* `C13_bloom_fits` — a bloom fits the 256 bytes of the header field.

The functions are executable; the driver evaluates them with the Keccak-256 of `Model/Keccak.lean` on the logs of the
real receipts of every block of E-block and the result is compared with the receipts' `Bloom` fields and with the
`block_bloom` event (correspondence), so the claim about the *code* is: same function, for the blocks explored.
-/
namespace Evermint.Bloom

/-- both folds of the model (bits into an item's bloom, receipt blooms into the block bloom) are of this shape -/
theorem testBit_foldl_or {α : Type} (f : α → Nat) : ∀ (l : List α) (b j : Nat),
    (l.foldl (fun acc x => acc ||| f x) b).testBit j = (b.testBit j || l.any (fun x => (f x).testBit j))
  | [], b, j => by simp
  | x :: l, b, j => by
    rw [List.foldl_cons, testBit_foldl_or f l, Nat.testBit_or, List.any_cons, Bool.or_assoc]

def setBits (b : Nat) (is : List Nat) : Nat := is.foldl (fun acc i => acc ||| (1 <<< i)) b

theorem testBit_setBits (is : List Nat) (b j : Nat) : (setBits b is).testBit j = (b.testBit j || is.contains j) := by
  rw [setBits, testBit_foldl_or, ← List.any_beq']
  simp only [Nat.one_shiftLeft, Nat.testBit_two_pow]
  rfl

theorem testBit_addItem (H : Hash) (b : Nat) (item : List UInt8) (j : Nat) :
    (addItem H b item).testBit j = (b.testBit j || (bits H item).contains j) := testBit_setBits _ _ _

theorem testBit_addLog (H : Hash) (b : Nat) (l : Log) (j : Nat) :
    (addLog H b l).testBit j = (b.testBit j || ((items l).flatMap (bits H)).contains j) := by
  rw [← testBit_setBits, setBits, List.foldl_flatMap]
  rfl

def logsBits (H : Hash) (logs : List Log) : List Nat := logs.flatMap (fun l => (items l).flatMap (bits H))

theorem logsBloom_eq_setBits (H : Hash) (logs : List Log) : logsBloom H logs = setBits 0 (logsBits H logs) := by
  simp only [logsBits, setBits, List.foldl_flatMap]
  rfl

theorem testBit_logsBloom (H : Hash) (logs : List Log) (j : Nat) :
    (logsBloom H logs).testBit j = (logsBits H logs).contains j := by
  rw [logsBloom_eq_setBits, testBit_setBits, Nat.zero_testBit, Bool.false_or]

/-- **exactly its own logs**: a bit is set iff an own log's address or topic sets it -/
theorem C13_bloom_exact (H : Hash) (logs : List Log) (j : Nat) :
    (logsBloom H logs).testBit j = true ↔ ∃ l ∈ logs, ∃ item ∈ items l, j ∈ bits H item := by
  rw [testBit_logsBloom]
  simp only [logsBits, List.contains_eq_mem, decide_eq_true_eq, List.mem_flatMap]

/-- no false negatives: every own log passes the membership test, address and every topic -/
theorem C13_bloom_covers (H : Hash) (logs : List Log) (l : Log) (hl : l ∈ logs) (item : List UInt8) (hi : item ∈ items l) :
    test H (logsBloom H logs) item = true := by
  unfold test
  rw [List.all_eq_true]
  intro i hbit
  exact (C13_bloom_exact H logs i).2 ⟨l, hl, item, hi, hbit⟩

theorem C13_bloom_union (H : Hash) (a b : List Log) : logsBloom H (a ++ b) = logsBloom H a ||| logsBloom H b := by
  apply Nat.eq_of_testBit_eq
  intro j
  rw [Nat.testBit_or, testBit_logsBloom, testBit_logsBloom, testBit_logsBloom]
  simp [logsBits, List.flatMap_append]

theorem C13_block_bloom_bits (H : Hash) (rs : List (List Log)) (j : Nat) :
    (blockBloom H rs).testBit j = rs.any (fun r => (logsBloom H r).testBit j) := by
  rw [blockBloom, testBit_foldl_or, Nat.zero_testBit, Bool.false_or]

theorem blockFold_eq (H : Hash) : ∀ (rs : List (List Log)) (a : List Log),
    rs.foldl (fun acc r => acc ||| logsBloom H r) (logsBloom H a) = logsBloom H (a ++ rs.flatten)
  | [], a => by simp
  | r :: rs, a => by
    rw [List.foldl_cons, ← C13_bloom_union, blockFold_eq H rs, List.flatten_cons, List.append_assoc]

/-- **the block bloom is the union**: what `EndBlock` accumulates receipt by receipt is the bloom of all logs of
the block -/
theorem C13_block_bloom_is_union (H : Hash) (rs : List (List Log)) : blockBloom H rs = logsBloom H rs.flatten :=
  blockFold_eq H rs []

theorem C13_block_bloom_order (H : Hash) (rs rs' : List (List Log)) (hp : rs.Perm rs') : blockBloom H rs = blockBloom H rs' := by
  apply Nat.eq_of_testBit_eq
  intro j
  rw [C13_block_bloom_bits, C13_block_bloom_bits]
  exact hp.any_eq

theorem bits_lt (H : Hash) (item : List UInt8) : ∀ i ∈ bits H item, i < 2048 := by
  intro i hi
  simp only [bits, List.mem_cons, List.mem_nil_iff, or_false] at hi
  rcases hi with h | h | h <;> subst h <;> exact Nat.mod_lt _ (by decide)

theorem C13_bloom_fits (H : Hash) (logs : List Log) : logsBloom H logs < 2 ^ 2048 := by
  apply Nat.lt_pow_two_of_testBit
  intro j hj
  cases h : (logsBloom H logs).testBit j with
  | false => rfl
  | true =>
    obtain ⟨l, _, item, _, hb⟩ := (C13_bloom_exact H logs j).1 h
    have := bits_lt H item j hb
    omega

/-! non-vacuity: two receipts with logs, a constant "hash" that still separates two items -/
def exH : Hash := fun bs => bs ++ [0, 0, 0, 0, 0, 0]
def exLogs1 : List Log := [⟨[1, 2], [[3, 4], [5, 6]]⟩]
def exLogs2 : List Log := [⟨[7, 8], []⟩, ⟨[1, 2], [[9, 9]]⟩]
example : blockBloom exH [exLogs1, exLogs2] = logsBloom exH (exLogs1 ++ exLogs2) ∧ logsBloom exH exLogs1 ≠ 0 ∧
    test exH (logsBloom exH exLogs1) [3, 4] = true ∧ test exH (logsBloom exH exLogs1) [7, 8] = false := by decide

end Evermint.Bloom
