import EvermintModel.Proofs.CDb
/-!
# C03 — reverted EVM call frames leave no trace, in any module

`W` is everything that lives in the branched context (all module stores, the event manager),
`J` the journaled fields.  All theorems are for **every** `W`, `J`, write function, nesting
depth and program — no bounds.

* `C03_revert_exact` — API level: after `id := Snapshot()`, *any* sequence of writes, nested
  snapshots and reverts to ids ≥ id, followed by `RevertToSnapshot(id)`, yields **exactly** the
  state right after the snapshot (stack, views, journaled fields): nothing made inside survives.
* `C03_calltree` — call-tree level (how `evm.Call/Create` use the StateDB): every frame is
  `snapshot; body; revert-if-failed`; the final world and journaled state equal those of the
  program with all failed frames erased, reverts never panic, and `commit` keeps exactly the
  effects of the successful frames in program order.
-/
namespace Evermint.CDbG
variable {W J : Type}

/-- `s'` extends `s`: nothing at or below `s`'s top was touched except the view of that top -/
def Ext (s s' : CDb W J) : Prop :=
  ∃ front v, s'.stack = front ++ { s.top with view := v } :: s.below ∧ s'.Ok ∧ s'.orig = s.orig

/-- inner operations never revert below the marked snapshot (well-bracketedness) -/
def InnerOk (mid : Int) : List (Op W J) → Prop
  | [] => True
  | .revert id' :: os => mid ≤ id' ∧ InnerOk mid os
  | _ :: os => InnerOk mid os

theorem Ext.ok {s s' : CDb W J} (h : Ext s s') : s'.Ok := by obtain ⟨_, _, _, h, _⟩ := h; exact h
theorem Ext.orig {s s' : CDb W J} (h : Ext s s') : s'.orig = s.orig := by obtain ⟨_, _, _, _, h⟩ := h; exact h

theorem Ext.refl {s : CDb W J} (hs : s.Ok) : Ext s s := ⟨[], s.top.view, rfl, hs, rfl⟩

theorem Ext.trans {s s1 s2 : CDb W J} (h1 : Ext s s1) (h2 : Ext s1 s2) : Ext s s2 := by
  obtain ⟨f1, v1, e1, -, o1⟩ := h1
  obtain ⟨f2, v2, e2, ok2, o2⟩ := h2
  -- `s`'s top snapshot is the top of `s1`, to which `s2` has given the view `v2`, or lies in `s1.below`, which `s2` has left alone
  cases f1 with
  | nil =>
    obtain ⟨ht, hb⟩ := List.cons.inj e1
    exact ⟨f2, v2, by rw [e2, ht, hb], ok2, o2.trans o1⟩
  | cons y f =>
    obtain ⟨-, hb⟩ := List.cons.inj e1
    exact ⟨f2 ++ { s1.top with view := v2 } :: f, v1, by rw [e2, hb, List.append_assoc]; rfl, ok2, o2.trans o1⟩

theorem Ext.upd {s : CDb W J} (hs : s.Ok) (h : W → J → W × J) : Ext s (s.upd h) :=
  ⟨[], _, rfl, upd_ok s h hs, rfl⟩

theorem Ext.snapshot {s : CDb W J} (hs : s.Ok) : Ext s s.snapshot.1 :=
  ⟨[s.snapshot.1.top], s.top.view, rfl, snapshot_ok s hs, rfl⟩

theorem Ext.cut {s0 s : CDb W J} {pre rest : List (Snap W J)} {t0 : Snap W J} (h : Ext s0 s)
    (hst : s.stack = pre ++ t0 :: rest) (hle : s0.top.id ≤ t0.id) (j : J) :
    Ext s0 { s with top := t0, below := rest, j := j } := by
  obtain ⟨front, v, e, ok, o⟩ := h
  have ok' : IdsOk (t0 :: rest) := IdsOk.suffix pre _ (hst ▸ ok)
  have i1 : s0.top.id = (s0.below.length : Int) - 1 :=
    ids_head (x := { s0.top with view := v }) (IdsOk.suffix front _ (e ▸ ok))
  have i2 := ids_head ok'
  -- both are suffixes of one stack, and ids count the snapshots below: the longer contains the shorter
  obtain ⟨c, hc⟩ := List.suffix_of_suffix_length_le ⟨front, e.symm⟩ (hst ▸ List.suffix_append pre (t0 :: rest))
    (by simp only [List.length_cons]; omega)
  exact ⟨c, v, hc.symm, ok', o⟩

theorem Ext.revert {s0 s s' : CDb W J} {id : Int} (h : Ext s0 s) (hle : s0.top.id ≤ id)
    (hr : s.revert id = some s') : Ext s0 s' := by
  have hok' := revert_ok s s' id h.ok hr
  obtain ⟨pre, t0, p, rest, h1, rfl, rfl⟩ := revert_some hr
  -- the stack is cut down to the wanted snapshot, then that snapshot's view is re-branched
  exact (h.cut h1 hle t0.saved).trans ⟨[], p.view, rfl, hok', rfl⟩

theorem framed_run {s0 : CDb W J} (ops : List (Op W J)) (s s' : CDb W J)
    (hi : InnerOk s0.top.id ops) (hf : Ext s0 s) (hr : s.run ops = some s') : Ext s0 s' := by
  induction ops generalizing s with
  | nil => cases hr; exact hf
  | cons o os ih =>
    obtain ⟨s1, h1, hr1⟩ := run_cons hr
    cases o with
    | upd h => cases h1; exact ih _ hi (hf.trans (.upd hf.ok h)) hr1
    | snapshot => cases h1; exact ih _ hi (hf.trans (.snapshot hf.ok)) hr1
    | revert id' => exact ih s1 hi.2 (hf.revert hi.1 h1) hr1

theorem revert_of_ext {s0 s2 : CDb W J} {p : Snap W J} {b : List (Snap W J)} (h : Ext s0 s2)
    (hb : s0.below = p :: b) (hid : 0 ≤ s0.top.id) :
    s2.revert s0.top.id = some { s0 with top := { s0.top with view := p.view }, j := s0.top.saved } := by
  obtain ⟨front, v, hst, hok, ho⟩ := h
  have hgo := revertGo_frame { s0.top with view := v } p b front s2.top s2.below (hb ▸ hst) hok
  unfold CDb.revert
  rw [if_neg (by omega)]
  simp only [hgo, ho, hb]

theorem revert_snapshot {s s2 : CDb W J} (h : Ext s.snapshot.1 s2) : s2.revert s.snapshot.2 = some s.snapshot.1 :=
  revert_of_ext h rfl (by simp [CDb.snapshot])

/-- **C03, API level.**  Whatever happens after `Snapshot()` — any writes by any module, any
nesting of further snapshots and reverts that do not go below it — `RevertToSnapshot(id)`
succeeds and restores *exactly* the state right after the snapshot. -/
theorem C03_revert_exact (s s2 : CDb W J) (ops : List (Op W J)) (hs : s.Ok)
    (hin : InnerOk s.snapshot.2 ops) (hrun : s.snapshot.1.run ops = some s2) :
    s2.revert s.snapshot.2 = some s.snapshot.1 :=
  revert_snapshot (framed_run ops _ s2 hin (.refl (snapshot_ok s hs)) hrun)

/-- corollary: every observation (any getter, any module query through the current context, the
pending events, the journaled fields) is the same as right after the snapshot -/
theorem C03_no_trace {α : Type} (obs : CDb W J → α) (s s2 s3 : CDb W J) (ops : List (Op W J)) (hs : s.Ok)
    (hin : InnerOk s.snapshot.2 ops) (hrun : s.snapshot.1.run ops = some s2)
    (hrev : s2.revert s.snapshot.2 = some s3) : obs s3 = obs s.snapshot.1 := by
  rw [C03_revert_exact s s2 ops hs hin hrun] at hrev
  cases hrev; rfl

/-- the same id can be reverted again later (ids stay valid across reverts to inner ids) -/
theorem C03_ids_stable (s s2 s4 : CDb W J) (ops ops' : List (Op W J)) (hs : s.Ok)
    (hin : InnerOk s.snapshot.2 ops) (hrun : s.snapshot.1.run ops = some s2)
    (hin' : InnerOk s.snapshot.2 ops') (hrun' : s.snapshot.1.run ops' = some s4) :
    s2.revert s.snapshot.2 = s4.revert s.snapshot.2 := by
  rw [C03_revert_exact s s2 ops hs hin hrun, C03_revert_exact s s4 ops' hs hin' hrun']

/-- a program as the EVM runs it: plain state operations and call frames; a frame is
`snapshot; body; RevertToSnapshot(id) if it failed` -/
inductive Node (W J : Type) where
  | op (h : W → J → W × J)
  | call (body : List (Node W J)) (failed : Bool)

mutual
  /-- what the Go code does -/
  def execNode (s : CDb W J) : Node W J → Option (CDb W J)
    | .op h => some (s.upd h)
    | .call body failed =>
      match execList s.snapshot.1 body with
      | none => none
      | some s2 => if failed then s2.revert s.snapshot.2 else some s2
  def execList (s : CDb W J) : List (Node W J) → Option (CDb W J)
    | [] => some s
    | n :: ns => match execNode s n with
      | none => none
      | some s' => execList s' ns
end

mutual
  /-- the specification: failed frames are erased -/
  def effNode (wj : W × J) : Node W J → W × J
    | .op h => h wj.1 wj.2
    | .call body failed => if failed then wj else effList wj body
  def effList (wj : W × J) : List (Node W J) → W × J
    | [] => wj
    | n :: ns => effList (effNode wj n) ns
end

theorem effList_append (x : W × J) (a b : List (Node W J)) : effList x (a ++ b) = effList (effList x a) b := by
  induction a generalizing x with
  | nil => rfl
  | cons n ns ih => simp only [List.cons_append, effList]; exact ih _

mutual
  theorem execNode_spec (s : CDb W J) (hs : s.Ok) : (n : Node W J) →
      ∃ s', execNode s n = some s' ∧ Ext s s' ∧ (s'.cur, s'.j) = effNode (s.cur, s.j) n
    | .op h => ⟨s.upd h, rfl, .upd hs h, by rw [effNode]; rfl⟩
    | .call body failed => by
      obtain ⟨s2, h2, hext, hobs⟩ := execList_spec s.snapshot.1 (snapshot_ok s hs) body
      rw [execNode, h2, effNode]
      cases failed with
      | false => exact ⟨s2, rfl, (Ext.snapshot hs).trans hext, hobs⟩
      | true => exact ⟨s.snapshot.1, revert_snapshot hext, .snapshot hs, rfl⟩
  theorem execList_spec (s : CDb W J) (hs : s.Ok) : (ns : List (Node W J)) →
      ∃ s', execList s ns = some s' ∧ Ext s s' ∧ (s'.cur, s'.j) = effList (s.cur, s.j) ns
    | [] => ⟨s, rfl, .refl hs, rfl⟩
    | n :: ns => by
      obtain ⟨s1, h1, e1, o1⟩ := execNode_spec s hs n
      obtain ⟨s2, h2, e2, o2⟩ := execList_spec s1 e1.ok ns
      rw [execList, h1, effList, ← o1]
      exact ⟨s2, h2, e1.trans e2, o2⟩
end

/-- **C03, call-tree level.**  For every program (any nesting depth, any writes by any module):
execution never panics, and the committed world and journaled state are exactly those of the
program with every failed frame erased — failed frames leave no trace, successful ones are all
kept, in program order. -/
theorem C03_calltree (w : W) (j0 : J) (prog : List (Node W J)) :
    ∃ s', execList (new w j0) prog = some s' ∧
      (s'.commitWorld, s'.j) = effList (w, j0) prog ∧ s'.orig = w := by
  obtain ⟨s', h, hext, hobs⟩ := execList_spec (new w j0) (new_ok w j0) prog
  exact ⟨s', h, hobs, hext.orig⟩

/-- when the *whole* transaction body fails (top-level frame reverted), nothing of it remains:
only what was done outside the frame (nonce bump, gas refund credit) is left -/
theorem C03_vmerr_residue (w : W) (j0 : J) (pre post body : List (Node W J)) :
    ∃ s', execList (new w j0) (pre ++ [.call body true] ++ post) = some s' ∧
      (s'.commitWorld, s'.j) = effList (effList (w, j0) pre) post := by
  obtain ⟨s', h, hobs, _⟩ := C03_calltree w j0 (pre ++ [.call body true] ++ post)
  refine ⟨s', h, ?_⟩
  rw [hobs, effList_append, effList_append]
  simp [effList, effNode]

/-! ## Non-vacuity: the theorem distinguishes a faulty implementation.
`revertAliased` forgets to re-branch (keeps the dirty view): the exactness statement is false for it. -/
def CDb.revertAliased (s : CDb Nat Nat) (id : Int) : Option (CDb Nat Nat) :=
  match s.revert id with
  | some s' => some { s' with top := { s'.top with view := s.top.view } }
  | none => none

example :
    let s := new (W := Nat) (J := Nat) 0 0
    let s1 := s.snapshot.1
    let s2 := s1.upd (fun w j => (w + 5, j + 1))
    (s2.revert 0).map (fun r => (r.cur, r.j)) = some (0, 0) ∧
    (s2.revertAliased 0).map (fun r => (r.cur, r.j)) = some (5, 0) := by decide

example : (execList (new (W := Nat) (J := Nat) 0 0)
    [.op (fun w j => (w+1, j)), .call [.op (fun w j => (w+10, j+1)), .call [.op (fun w j => (w+100, j))] false] true,
     .call [.op (fun w j => (w+1000, j+2))] false]).map (fun r => (r.commitWorld, r.j)) = some (1001, 2) := by decide

end Evermint.CDbG
