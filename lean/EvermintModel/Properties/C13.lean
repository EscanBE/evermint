import EvermintModel.Properties.C05
/-!
# C13 — per-block receipts, indices, cumulative gas (and bloom) are mutually consistent

The transient per-block bookkeeping (`txCount`, per-tx gas, per-tx log count) is an invariant-
carrying state; the theorems hold for every block content: any number and order of Ethereum
transactions of every outcome class (Cosmos transactions do not touch this bookkeeping).
Bloom filters: see `Properties/C13Bloom.lean` (model `Model/Bloom.lean`).
-/
namespace Evermint.Block

def sumL (l : List Nat) : Nat := l.foldl (· + ·) 0

theorem foldl_add_init (l : List Nat) (a : Nat) : l.foldl (· + ·) a = a + l.foldl (· + ·) 0 := by
  induction l generalizing a with
  | nil => simp
  | cons x xs ih => simp only [List.foldl_cons]; rw [ih (a + x), ih (0 + x)]; omega

theorem sumL_append (l : List Nat) (a : Nat) : sumL (l ++ [a]) = sumL l + a := by
  simp [sumL, List.foldl_append]

theorem sumTake_length {l : List Nat} {n : Nat} (h : l.length = n) : sumTake l n = sumL l := by
  subst h; simp [sumTake, sumL]

theorem listSet_append_last {l : List Nat} {n : Nat} (h : l.length = n) (a v : Nat) :
    listSet (l ++ [a]) n v = l ++ [v] := by
  subst h; simp [listSet]

/-- both transient tables have exactly one slot per admitted transaction -/
def Inv (s : BState) : Prop := s.gasSlots.length = s.txCount ∧ s.logSlots.length = s.txCount

def totalGas (s : BState) : Nat := sumL s.gasSlots
def totalLogs (s : BState) : Nat := sumL s.logSlots

theorem sumTake_txCount {s : BState} (hi : Inv s) :
    sumTake s.gasSlots s.txCount = totalGas s ∧ sumTake s.logSlots s.txCount = totalLogs s :=
  ⟨sumTake_length hi.1, sumTake_length hi.2⟩

/-- the slot the ante handler appended is the last one: the committed execution overwrites it with its real gas used
and log count -/
theorem committedOut_slots {s : BState} (t : EthTx) (x : Exec) (hi : Inv s) :
    (committedOut s t x).1.gasSlots = s.gasSlots ++ [x.gasUsed] ∧
    (committedOut s t x).1.logSlots = s.logSlots ++ [x.nLogs] :=
  ⟨listSet_append_last hi.1 .., listSet_append_last hi.2 ..⟩

theorem inv_step (s : BState) (t : EthTx) (x : Exec) (hi : Inv s) : Inv (stepEth s t x).1 := by
  rcases stepEth_outcome s t x with ⟨c, gw, gu, -, h⟩ | ⟨-, c, gu, -, h⟩ | ⟨-, h⟩ <;> rw [h]
  · exact hi
  · simp [failedOut, anteState, Inv, hi.1, hi.2]
  · have hs := committedOut_slots t x hi
    simp only [Inv, hs.1, hs.2, List.length_append, hi.1, hi.2]
    exact ⟨rfl, rfl⟩

/-- **transaction index**: the transactions that reached execution are numbered by the count of
earlier ones in the block (so 0,1,2,… in block order); refused / dropped ones get no index and do
not consume one -/
theorem C13_txIndex (s : BState) (t : EthTx) (x : Exec) :
    (admitted (stepEth s t x).2.cls = true →
      (stepEth s t x).2.anteIdx = some s.txCount ∧ (stepEth s t x).1.txCount = s.txCount + 1) ∧
    (admitted (stepEth s t x).2.cls = false →
      (stepEth s t x).2.anteIdx = none ∧ (stepEth s t x).2.rcptIdx = none ∧ (stepEth s t x).1.txCount = s.txCount) := by
  constructor
  · intro hadm
    obtain ⟨-, ⟨c, gu, -, h⟩ | h⟩ := stepEth_of_admitted hadm <;> rw [h] <;> exact ⟨rfl, rfl⟩
  · intro hadm
    obtain ⟨c, gw, gu, h⟩ := stepEth_of_not_admitted hadm
    rw [h]
    exact ⟨rfl, rfl, rfl⟩

/-- the receipt's index equals the ante event's index whenever a receipt exists -/
theorem C13_receipt_index (s : BState) (t : EthTx) (x : Exec)
    (hc : (stepEth s t x).2.cls = .ok ∨ (stepEth s t x).2.cls = .vmerr) :
    (stepEth s t x).2.rcptIdx = some s.txCount ∧ (stepEth s t x).2.anteIdx = some s.txCount := by
  rw [stepEth_of_committed hc]; exact ⟨rfl, rfl⟩

/-- **log index**: the first log of a committed transaction is numbered by the total number of logs
of all earlier transactions of the block (consecutive, no gaps, no repeats), and the block's running
total grows by exactly this transaction's log count — and by nothing for failed / refused ones -/
theorem C13_logIndex (s : BState) (t : EthTx) (x : Exec) (hi : Inv s) :
    (((stepEth s t x).2.cls = .ok ∨ (stepEth s t x).2.cls = .vmerr) →
      (stepEth s t x).2.logIdx = (if x.nLogs > 0 then some (totalLogs s) else none) ∧
      totalLogs (stepEth s t x).1 = totalLogs s + x.nLogs) ∧
    (¬ ((stepEth s t x).2.cls = .ok ∨ (stepEth s t x).2.cls = .vmerr) →
      (stepEth s t x).2.logIdx = none ∧ totalLogs (stepEth s t x).1 = totalLogs s) := by
  constructor
  · intro hc
    rw [stepEth_of_committed hc]
    refine ⟨?_, ?_⟩
    · simp only [committedOut]; rw [(sumTake_txCount hi).2]
    · rw [totalLogs, (committedOut_slots t x hi).2, sumL_append]; rfl
  · intro hn
    rcases stepEth_outcome s t x with ⟨c, gw, gu, -, h⟩ | ⟨-, c, gu, -, h⟩ | ⟨-, h⟩ <;> rw [h] at hn ⊢
    · exact ⟨rfl, rfl⟩
    · exact ⟨rfl, sumL_append _ 0⟩   -- the slot appended by the ante handler holds 0 logs
    · cases hv : x.vmErr <;> simp [committedOut, hv] at hn

/-- **cumulative gas**: a receipt's cumulative gas is its own gas used plus the receipt gas of every
earlier Ethereum transaction of the block; the running total grows by the receipt gas of each
admitted transaction (its real gas used if committed, its full gas limit if it failed) -/
theorem C13_cumulativeGas (s : BState) (t : EthTx) (x : Exec) (hi : Inv s) :
    (((stepEth s t x).2.cls = .ok ∨ (stepEth s t x).2.cls = .vmerr) →
      (stepEth s t x).2.cumGas = some (x.gasUsed + totalGas s)) ∧
    totalGas (stepEth s t x).1 = totalGas s + receiptGas t x (stepEth s t x).2.cls := by
  constructor
  · intro hc
    rw [stepEth_of_committed hc]
    simp only [committedOut]; rw [(sumTake_txCount hi).1]
  · rcases stepEth_outcome s t x with ⟨c, gw, gu, hc, h⟩ | ⟨-, c, gu, hc, h⟩ | ⟨-, h⟩ <;> rw [h]
    · show totalGas s = totalGas s + receiptGas t x c
      rw [receiptGas_of_not_admitted hc]; rfl
    · show sumL (s.gasSlots ++ [t.gasLimit]) = totalGas s + receiptGas t x c
      rw [receiptGas_of_failed hc, sumL_append]; rfl
    · rw [totalGas, (committedOut_slots t x hi).1, sumL_append]
      simp only [committedOut, receiptGas_committed]; rfl

/-- receipt status is 1 exactly when no VM error occurred -/
theorem C13_status (s : BState) (t : EthTx) (x : Exec)
    (hc : (stepEth s t x).2.cls = .ok ∨ (stepEth s t x).2.cls = .vmerr) :
    ((stepEth s t x).2.status = some 1 ↔ x.vmErr = false) ∧ ((stepEth s t x).2.cls = .ok ↔ x.vmErr = false) := by
  rw [stepEth_of_committed hc]
  simp only [committedOut]
  cases x.vmErr <;> decide

/-- a created-contract address is reported exactly when a creation succeeded (that it equals
CREATE(sender, nonce) is checked by E-block on the real event) -/
theorem C13_contract (s : BState) (t : EthTx) (x : Exec) :
    (stepEth s t x).2.contract = some true ↔
      (t.create = true ∧ (stepEth s t x).2.cls = .ok) := by
  rcases stepEth_outcome s t x with ⟨c, gw, gu, hc, h⟩ | ⟨-, c, gu, hc, h⟩ | ⟨-, h⟩ <;> rw [h]
  · exact ⟨nofun, fun h => absurd h.2 (ne_ok_of_not_admitted hc)⟩
  · exact ⟨nofun, fun h => absurd h.2 (ne_ok_of_failed hc)⟩
  · simp only [committedOut]
    cases x.vmErr <;> cases t.create <;> decide

/-- over a whole block (any list of transactions) the invariant holds throughout, hence all of the
above at every position -/
theorem C13_inv_block : ∀ (is : List Item) (s : BState), Inv s → Inv (runItems s is).1
  | [], _, hi => hi
  | .tx t x :: is, s, hi => C13_inv_block is _ (inv_step s t x hi)
  | .newBlock .. :: is, _, _ => C13_inv_block is _ ⟨rfl, rfl⟩

/-- end of block never finds a receipt missing: exactly `txCount` receipts exist (no panic in the
EVM end-blocker; also used by C20) -/
theorem C13_endBlock_total (is : List Item) (s : BState) (hi : Inv s) :
    (runItems s is).1.gasSlots.length = (runItems s is).1.txCount := (C13_inv_block is s hi).1

/-! ## Non-vacuity: two log-emitting txs in one block — the second starts at the first's count -/
def exS2 := (stepEth exS exT exX).1
def exT2 : EthTx := { exT with nonce := 1 }
example : (stepEth exS exT exX).2.logIdx = some 0 ∧ (stepEth exS2 exT2 exX).2.logIdx = some 2 ∧
    (stepEth exS2 exT2 exX).2.rcptIdx = some 1 ∧
    (stepEth exS2 exT2 exX).2.cumGas = some (2 * (61408 - 12281)) := by decide +kernel

end Evermint.Block
