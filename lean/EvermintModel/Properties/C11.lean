import EvermintModel.Model.StakingCpc
/-!
# C11 — the staking precompile acts only for its caller and mirrors native staking  *(thin proof + twin execution)*
-/
namespace Evermint.StakingCpc

/-- the gate in front of both `*ByMessage` bodies of `toNative` -/
theorem signed_gate {caller md : Nat} {valid : Bool} {rec : Option Nat} {body : Option Native} {n : Native}
    (h : (if !valid then none else if caller ≠ md then none else if rec ≠ some md then none else body) = some n) :
    md = caller ∧ rec = some caller ∧ valid = true ∧ body = some n := by
  obtain ⟨h1, r1⟩ := Option.ite_none_left_eq_some.1 h
  obtain ⟨h2, r2⟩ := Option.ite_none_left_eq_some.1 r1
  obtain ⟨h3, hb⟩ := Option.ite_none_left_eq_some.1 r2
  cases Decidable.not_not.1 h2
  exact ⟨rfl, Decidable.not_not.1 h3, by simpa using h1, hb⟩

/-- **C11 (caller only).** Whatever method is called and whatever the arguments say, the native message
handed to the staking / distribution message servers names the immediate caller as delegator. -/
theorem C11_caller_only (caller : Nat) (c : Call) (n : Native) (h : toNative caller c = some n) : n.delegator = caller := by
  cases c with
  | delegate | undelegate | redelegate | transfer => cases (Option.ite_none_left_eq_some.1 h).2; rfl
  | withdrawReward | withdrawRewards => cases h; rfl
  | byMessage act md v ov a valid rec =>
    obtain ⟨rfl, _, _, hb⟩ := signed_gate h
    cases act <;> (cases hb; rfl)
  | withdrawByMessage md fv valid rec =>
    obtain ⟨rfl, _, _, hb⟩ := signed_gate h
    cases fv <;> (cases hb; rfl)

/-- **C11 (signed variants).** A `*ByMessage` call acts only if the message's delegator is the caller *and*
the EIP-712 signature recovers, for this chain id, to that same address. -/
theorem C11_signed (caller : Nat) (act : Action) (md v ov a : Nat) (valid : Bool) (rec : Option Nat) (n : Native)
    (h : toNative caller (.byMessage act md v ov a valid rec) = some n) : md = caller ∧ rec = some caller ∧ valid = true :=
  have ⟨h1, h2, h3, _⟩ := signed_gate h
  ⟨h1, h2, h3⟩

theorem C11_signed_withdraw (caller md : Nat) (fv : Option Nat) (valid : Bool) (rec : Option Nat) (n : Native)
    (h : toNative caller (.withdrawByMessage md fv valid rec) = some n) : md = caller ∧ rec = some caller :=
  have ⟨h1, h2, _⟩ := signed_gate h
  ⟨h1, h2⟩

/-- **C11 (effect = native message).** The non-signed and the signed variant of an action hand the *same*
native message to the module: nothing else is written by the precompile itself. -/
theorem C11_signed_same_native (caller v ov a : Nat) (ha : a ≠ 0) :
    toNative caller (.byMessage .delegate caller v ov a true (some caller)) = toNative caller (.delegate v a) ∧
    toNative caller (.byMessage .undelegate caller v ov a true (some caller)) = toNative caller (.undelegate v a) ∧
    toNative caller (.byMessage .redelegate caller v ov a true (some caller)) = toNative caller (.redelegate ov v a) := by
  simp [toNative, ha]

theorem filter_relevant {l : List Ev} (h : ∀ e ∈ l, e ≠ .other) : l.filter (· ≠ .other) = l :=
  List.filter_eq_self.2 fun e he => by simpa using h e he

theorem logsOf_append (d : Nat) (old new : List Ev) (hold : ∀ e ∈ old, e ≠ .other) :
    logsOf d (old ++ new) old.length =
      if new.filter (· ≠ .other) = [] then none else some ((new.filter (· ≠ .other)).flatMap (toLogs d)) := by
  unfold logsOf
  simp only [List.filter_append, filter_relevant hold, List.length_append, List.drop_left]
  by_cases hnew : new.filter (· ≠ .other) = []
  · rw [if_pos hnew, hnew]; exact if_pos (Nat.le_refl _)
  · rw [if_neg hnew, if_neg (by have := List.length_pos_iff.2 hnew; omega)]

/-- **C11 (logs match exactly the events of this call).** Events that were already in the manager are never
re-emitted, every new staking / distribution event with a positive amount yields its log(s), in order, and
nothing else does. -/
theorem C11_logs_exact (d : Nat) (old new : List Ev) (hold : ∀ e ∈ old, e ≠ .other) (hnew : (new.filter (· ≠ .other)) ≠ []) :
    logsOf d (old ++ new) old.length = some ((new.filter (· ≠ .other)).flatMap (toLogs d)) := by
  rw [logsOf_append d old new hold, if_neg hnew]

/-- two calls in one transaction (one event manager): together they emit exactly the logs of their own events, once -/
theorem C11_two_calls (d : Nat) (ev1 ev2 : List Ev) (h1 : ∀ e ∈ ev1, e ≠ .other) (hn1 : ev1 ≠ []) (hn2 : (ev2.filter (· ≠ .other)) ≠ []) :
    (logsOf d ev1 0).bind (fun l1 => (logsOf d (ev1 ++ ev2) ev1.length).map (fun l2 => l1 ++ l2)) =
      some (ev1.flatMap (toLogs d) ++ (ev2.filter (· ≠ .other)).flatMap (toLogs d)) := by
  have a := C11_logs_exact d [] ev1 (fun _ he => nomatch he) (by rw [filter_relevant h1]; exact hn1)
  rw [filter_relevant h1] at a
  rw [show logsOf d ev1 0 = _ from a, C11_logs_exact d ev1 ev2 h1 hn2]
  rfl

/-- a call whose module action emitted no relevant event fails ("no old-event found") -/
theorem C11_no_event_fails (d : Nat) (old : List Ev) (hold : ∀ e ∈ old, e ≠ .other) : logsOf d old old.length = none := by
  simpa using logsOf_append d old [] hold

/-- `transfer` never moves anything to another account: it acts only when the receiver is the caller. -/
theorem C11_transfer_self_only (caller to a : Nat) (n : Native) (h : toNative caller (.transfer to a) = some n) :
    to = caller ∧ n = .selfStake caller a := by
  obtain ⟨hc, hn⟩ := Option.ite_none_left_eq_some.1 h
  exact ⟨Decidable.not_not.1 fun ht => hc (.inr (.inr (.inl ht))), (Option.some.inj hn).symm⟩

def Log.delegator : Log → Nat
  | .delegate d _ _ => d | .undelegate d _ _ => d | .withdrawReward d _ _ => d

def Ev.delegatorIs (d : Nat) : Ev → Prop
  | .delegate _ x _ => x = d | .unbond _ x _ => x = d | .withdraw _ x _ => x = d | _ => True

/-- from a redelegation event the code reads no delegator: its logs get the caller's -/
theorem toLogs_delegator {d : Nat} {e : Ev} (he : e.delegatorIs d) : ∀ l ∈ toLogs d e, l.delegator = d := by
  intro l hl
  cases e with
  | delegate | unbond | withdraw =>
    simp only [toLogs] at hl
    split at hl
    · cases List.mem_singleton.1 hl; exact he
    · cases hl
  | redelegate =>
    simp only [toLogs] at hl
    split at hl
    · rcases List.mem_cons.1 hl with rfl | hl
      · rfl
      · cases List.mem_singleton.1 hl; rfl
    · cases hl
  | other => cases hl

/-- when the module events of the call all name `d` (what `C11_caller_only` + the twin execution give), every
emitted log names `d` too: no log is ever attributed to a third party. -/
theorem C11_logs_name_delegator (d : Nat) (events : List Ev) (k : Nat) (ls : List Log)
    (hev : ∀ e ∈ events, e.delegatorIs d) (h : logsOf d events k = some ls) : ∀ l ∈ ls, l.delegator = d := by
  cases (Option.ite_none_left_eq_some.1 h).2
  intro l hl
  obtain ⟨e, he, hle⟩ := List.mem_flatMap.1 hl
  exact toLogs_delegator (hev e (List.mem_filter.1 (List.mem_of_mem_drop he)).1) l hle

/-! non-vacuity -/
example : toNative 7 (.transfer 7 50) = some (.selfStake 7 50) := by decide
example : toNative 7 (.transfer 8 50) = none := by decide
example : toNative 7 (.byMessage .delegate 7 3 0 50 true (some 7)) = some (.delegate 7 3 50) := by decide
example : toNative 7 (.byMessage .delegate 8 3 0 50 true (some 8)) = none := by decide       -- somebody else's signed message
example : toNative 7 (.byMessage .delegate 7 3 0 50 true (some 9)) = none := by decide       -- forged / foreign-chain signature
example : logsOf 7 [.redelegate 1 2 30, .other, .withdraw 1 7 5] 0 = some [.undelegate 7 1 30, .delegate 7 2 30, .withdrawReward 7 1 5] := by decide

end Evermint.StakingCpc
