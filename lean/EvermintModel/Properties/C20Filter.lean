import EvermintModel.Model.LogFilter
/-!
# `FilterLogs` never indexes out of range, and selects exactly what the criterion means (C20, C14)

Both come from `topicLoop_decides` / `selects_decides`: the evaluation answers, and answers `true` exactly by the declarative rule.
-/
namespace Evermint.LogFilter

theorem forall_getElem?_cons {α : Type} {a : α} {l : List α} {P : Nat → α → Prop} :
    (∀ j x, (a :: l)[j]? = some x → P j x) ↔ P 0 a ∧ ∀ j x, l[j]? = some x → P (j + 1) x :=
  ⟨fun H => ⟨H 0 a rfl, fun j x h => H (j + 1) x h⟩, fun ⟨h0, hs⟩ j x h => by
    cases j with
    | zero => cases h; exact h0
    | succ j => exact hs j x h⟩

/-- with `i + |rest| ≤ |lt|` every indexed position exists -/
theorem topicLoop_decides (lt : List Nat) (rest : List (List Nat)) (i : Nat) (h : i + rest.length ≤ lt.length) :
    ∃ b, topicLoop lt i rest = some b ∧
      (b = true ↔ ∀ (j : Nat) (sub : List Nat), rest[j]? = some sub → sub = [] ∨ ∃ t, lt[i + j]? = some t ∧ t ∈ sub) := by
  induction rest generalizing i with
  | nil => exact ⟨true, rfl, iff_of_true rfl nofun⟩
  | cons sub rest ih =>
    simp only [List.length_cons] at h
    have hi : i < lt.length := by omega
    obtain ⟨b, hb, hP⟩ := ih (i + 1) (by omega)
    simp only [Nat.add_right_comm i 1, Nat.add_assoc] at hP
    -- splits the rule for `sub :: rest` into head and rest (which `b` decides): left is `b' = true ↔ (sub = [] ∨ lt[i] ∈ sub) ∧ b = true`
    simp only [topicLoop, forall_getElem?_cons, Nat.add_zero, List.getElem?_eq_getElem hi, Option.some.injEq, exists_eq_left', ← hP]
    rw [hb]
    by_cases he : sub.isEmpty = true
    · exact ⟨b, if_pos he, by simp [List.isEmpty_iff.1 he]⟩
    by_cases hc : sub.contains lt[i] = true
    · exact ⟨b, by rw [if_neg he, if_pos hc], by simp [List.contains_iff_mem.1 hc]⟩
    · exact ⟨false, by rw [if_neg he, if_neg hc], by simp [mt List.isEmpty_iff.2 he, mt List.contains_iff_mem.2 hc]⟩

theorem topicLoop_total (lt : List Nat) (rest : List (List Nat)) (i : Nat) (h : i + rest.length ≤ lt.length) :
    ∃ b, topicLoop lt i rest = some b :=
  (topicLoop_decides lt rest i h).imp fun _ hb => hb.1

theorem topicLoop_spec (lt : List Nat) (rest : List (List Nat)) (i : Nat) (h : i + rest.length ≤ lt.length) :
    topicLoop lt i rest = some true ↔ ∀ (j : Nat) (sub : List Nat), rest[j]? = some sub → sub = [] ∨ ∃ t, lt[i + j]? = some t ∧ t ∈ sub := by
  obtain ⟨b, hb, hP⟩ := topicLoop_decides lt rest i h
  rw [hb, Option.some.injEq, hP]

theorem selects_decides (c : Crit) (l : Log) : ∃ b, selects true c l = some b ∧
    (b = true ↔ belowFrom c l = false ∧ aboveTo c l = false ∧ addrOut c l = false ∧ topicsOK c l) := by
  unfold selects
  cases belowFrom c l
  case true => exact ⟨false, rfl, by simp⟩
  cases aboveTo c l
  case true => exact ⟨false, rfl, by simp⟩
  cases addrOut c l
  case true => exact ⟨false, rfl, by simp⟩
  simp only [Bool.false_eq_true, if_false, true_and, Bool.true_and, tooLong, decide_eq_true_eq, topicsOK]
  by_cases h4 : c.topics.length > l.topics.length
  · exact ⟨false, if_pos h4, ⟨nofun, fun H => absurd H.1 (Nat.not_le_of_gt h4)⟩⟩
  · obtain ⟨b, hb, hP⟩ := topicLoop_decides l.topics c.topics 0 (by omega)
    simp only [Nat.zero_add] at hP
    exact ⟨b, by rw [if_neg h4, hb], hP.trans (and_iff_right (Nat.le_of_not_gt h4)).symm⟩

/-- **C20 (log filters).** Whatever criterion a user installs and whatever log arrives, evaluating the filter
does not panic. -/
theorem C20_filter_total (c : Crit) (l : Log) : ∃ b, selects true c l = some b :=
  (selects_decides c l).imp fun _ hb => hb.1

theorem C20_filterLogs_total (c : Crit) : ∀ (logs : List Log), ∃ r, filterLogs c logs = some r
  | [] => ⟨[], rfl⟩
  | l :: ls => by
    obtain ⟨r, hr⟩ := C20_filterLogs_total c ls
    obtain ⟨b, hb⟩ := C20_filter_total c l
    unfold filterLogs at hr ⊢
    simp only [List.foldr_cons, hr, hb]
    cases b <;> simp

/-- the guard is what makes it total: without it, the filter `[*, B]` panics on a log with one topic -/
theorem C20_guard_needed : selects false { fromB := none, toB := none, addrs := [], topics := [[], [7]] } { addr := 1, topics := [5], block := 3 } = none := by
  decide

/-- **C14 (log filters).** Inside the block range and address list, a log is selected exactly when the filter
has at most as many positions as the log has topics and every non-wildcard position names the log's topic there. -/
theorem C14_filter_topics (c : Crit) (l : Log) (hf : belowFrom c l = false) (ht : aboveTo c l = false) (ha : addrOut c l = false) :
    selects true c l = some true ↔ topicsOK c l := by
  obtain ⟨b, hb, hP⟩ := selects_decides c l
  rw [hb, Option.some.injEq, hP]
  simp [hf, ht, ha]

example : filterLogs { fromB := some (-1), toB := none, addrs := [], topics := [[], [7]] }
    [{ addr := 1, topics := [5], block := 3 }, { addr := 1, topics := [5, 7], block := 3 }] = some [{ addr := 1, topics := [5, 7], block := 3 }] := by decide

end Evermint.LogFilter
