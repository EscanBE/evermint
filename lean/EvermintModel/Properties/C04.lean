import EvermintModel.Proofs.World
import EvermintModel.Proofs.Block
/-!
# C04 — Ethereum transactions never create coins

Two layers.
* **Bank / StateDB layer** (`World`): what every balance primitive the interpreter can reach
  (`AddBalance` = mint + module→account, `SubBalance` = account→module + burn, `core.Transfer` =
  Sub;Add, the gas refund + fee-collector burn pair, precompile bank sends) does to supply and to the
  EVM module account — exact deltas, for all amounts.  That these are the *only* callers of
  Add/SubBalance in the fork's `core/vm` is the regenerated call-site census (`fact_balance_sites`, Facts/Block).
* **Transaction layer** (`Block.stepEth`): for every transaction and outcome class the supply delta
  is exactly minus the coins the program explicitly destroyed, never positive, and sender +
  collector deltas sum to minus the value that left the sender.
-/
namespace Evermint
open World

/-- `core.Transfer(db, from, to, n)` = `SubBalance(from, n); AddBalance(to, n)` -/
def transfer (w : World) (f t : Addr) (n : Nat) : Except String World := do
  let w1 ← w.burnFrom f evmDenom n
  w1.mintTo t evmDenom n

/-- a value transfer conserves the supply of every denomination and leaves the EVM module account
as it was (bank invariant `balance ≤ supply` as hypothesis) -/
theorem C04_transfer_conserves {w w' : World} {f t : Addr} {n : Nat}
    (h : transfer w f t n = .ok w') (hf : f ≠ w.evmMod) (ht : t ≠ w.evmMod)
    (hinv : w.balOf f evmDenom ≤ w.supply.get evmDenom) :
    (∀ d, w'.supply.get d = w.supply.get d) ∧ w'.balOf w.evmMod evmDenom = w.balOf w.evmMod evmDenom := by
  obtain ⟨w1, h1, h2⟩ := ok_of_bind h
  have e1 := burnFrom_effect evmDenom_lt h1 hf
  have e2 := mintTo_effect evmDenom_lt h2 (e1.evmMod ▸ ht)
  refine ⟨fun d => ?_, (e1.evmMod ▸ e2.balOf_mod).trans e1.balOf_mod⟩
  by_cases hd : d = evmDenom
  · -- what was burnt was there (`hinv`), so minting it again restores the supply
    have := Nat.le_trans (burnFrom_le h1) (spendable_le ..)
    rw [hd, e2.supply, e1.supply]; omega
  · rw [e2.supply_ne d hd, e1.supply_ne d hd]

/-- `AddBalance`: supply + n, module account unchanged -/
theorem C04_addBalance {w w' : World} {a : Addr} {n : Nat} (h : w.mintTo a evmDenom n = .ok w') (ha : a ≠ w.evmMod) :
    w'.supply.get evmDenom = w.supply.get evmDenom + n ∧ w'.balOf w.evmMod evmDenom = w.balOf w.evmMod evmDenom :=
  let e := mintTo_effect evmDenom_lt h ha; ⟨e.supply, e.balOf_mod⟩

/-- `SubBalance`: supply − n, module account unchanged -/
theorem C04_subBalance {w w' : World} {a : Addr} {n : Nat} (h : w.burnFrom a evmDenom n = .ok w') (ha : a ≠ w.evmMod) :
    w'.supply.get evmDenom = w.supply.get evmDenom - n ∧ w'.balOf w.evmMod evmDenom = w.balOf w.evmMod evmDenom :=
  let e := burnFrom_effect evmDenom_lt h ha; ⟨e.supply, e.balOf_mod⟩

/-- the gas refund (minted to the sender) together with the matching burn from the fee collector
(`EthereumTx`, after `ApplyTransaction`) conserves supply: the refund is a transfer collector→sender -/
theorem C04_refund_conserves {w w1 w2 : World} {sender collector : Addr} {r : Nat}
    (h1 : w.mintTo sender evmDenom r = .ok w1) (h2 : w1.burnFrom collector evmDenom r = .ok w2)
    (hs : sender ≠ w.evmMod) (hc : collector ≠ w.evmMod) :
    w2.supply.get evmDenom = w.supply.get evmDenom ∧ w2.balOf w.evmMod evmDenom = w.balOf w.evmMod evmDenom := by
  have e1 := mintTo_effect evmDenom_lt h1 hs
  have e2 := burnFrom_effect evmDenom_lt h2 (e1.evmMod ▸ hc)
  exact ⟨by rw [e2.supply, e1.supply]; omega, (e1.evmMod ▸ e2.balOf_mod).trans e1.balOf_mod⟩

/-- the *unfixed* refund (pinned commit): minted, nothing burnt — supply grows by the refund.
Kept as the regression record of F3. -/
theorem C04_refund_inflated_before_fix {w w1 : World} {sender : Addr} {r : Nat}
    (h1 : w.mintTo sender evmDenom r = .ok w1) (hs : sender ≠ w.evmMod) :
    w1.supply.get evmDenom = w.supply.get evmDenom + r := (C04_addBalance h1 hs).1

/-- balance-moving primitives reachable from the interpreter and from precompiles -/
inductive BalOp where
  | add (a : Addr) (n : Nat)                     -- AddBalance
  | sub (a : Addr) (n : Nat)                     -- SubBalance
  | send (f t : Addr) (d : Denom) (n : Nat)      -- precompile bank send (keeper level)

def BalOp.run (w : World) : BalOp → Except String World
  | .add a n => w.mintTo a evmDenom n
  | .sub a n => w.burnFrom a evmDenom n
  | .send f t d n => w.sendCoins f t d n

/-- no operation names the EVM module account as the account acted upon; `AddBalance` refuses it
itself (it is on the bank block-list), precompile sends refuse block-listed recipients (F16 fix) -/
def BalOp.avoids (m : Addr) : BalOp → Prop
  | .add a _ => a ≠ m
  | .sub a _ => a ≠ m
  | .send f t d _ => f ≠ m ∧ t ≠ m ∧ f ≠ t ∧ d < 4096

theorem balop_evmMod {w w' : World} {o : BalOp} (h : o.run w = .ok w') (ha : o.avoids w.evmMod) :
    w'.balOf w.evmMod evmDenom = w.balOf w.evmMod evmDenom ∧ w'.evmMod = w.evmMod := by
  cases o with
  | add a n => exact let e := mintTo_effect evmDenom_lt h ha; ⟨e.balOf_mod, e.evmMod⟩
  | sub a n => exact let e := burnFrom_effect evmDenom_lt h ha; ⟨e.balOf_mod, e.evmMod⟩
  | send f t d n =>
    obtain ⟨hf, ht, hft, hd⟩ := ha
    have s := sendCoins_bal hd h hft
    exact ⟨s.balOf_ne _ _ evmDenom_lt (.inl ⟨hf.symm, ht.symm⟩), s.evmMod⟩

def runOps : World → List BalOp → Except String World
  | w, [] => .ok w
  | w, o :: os => match o.run w with
    | .error e => .error e
    | .ok w' => runOps w' os

/-- **evm-module-zero**: over every sequence of balance operations (any length, any amounts) the
EVM module account ends with exactly the balance it started with — zero on every reachable state -/
theorem C04_evmModule_zero : ∀ (os : List BalOp) (w w' : World),
    (∀ o ∈ os, o.avoids w.evmMod) → runOps w os = .ok w' →
    w'.balOf w.evmMod evmDenom = w.balOf w.evmMod evmDenom
  | [], w, w', _, h => by cases h; rfl
  | o :: os, w, w', ha, h => by
    unfold runOps at h
    cases h1 : o.run w with
    | error _ => rw [h1] at h; cases h
    | ok w1 =>
      rw [h1] at h
      obtain ⟨hb, hm⟩ := balop_evmMod h1 (ha o (List.mem_cons_self ..))
      rw [← hb, ← hm]
      exact C04_evmModule_zero os w1 w' (fun o' ho' => hm ▸ ha o' (List.mem_cons_of_mem _ ho')) h

namespace Block

/-- **no coins are created** by any transaction in any outcome class; supply falls by exactly the
coins the program explicitly destroyed, and only when it succeeded -/
theorem C04_supply (s : BState) (t : EthTx) (x : Exec) :
    (stepEth s t x).2.dSupply ≤ 0 ∧
    (stepEth s t x).2.dSupply = -(((if (stepEth s t x).2.cls = .ok then t.sdBurn else 0) : Nat) : Int) := by
  refine (and_iff_right_of_imp fun h => by rw [h]; omega).mpr ?_
  rcases stepEth_outcome s t x with ⟨c, gw, gu, hc, h⟩ | ⟨-, c, gu, hc, h⟩ | ⟨-, h⟩ <;> rw [h]
  · simp [noOut, ne_ok_of_not_admitted hc]
  · simp [failedOut, noOut, ne_ok_of_failed hc]
  · cases hv : x.vmErr <;> simp [committedOut, hv]

/-- sender and fee collector together lose exactly the value that left the sender: every wei the
sender pays in fees is a wei the collector gains -/
theorem C04_sender_collector (s : BState) (t : EthTx) (x : Exec) (hx : x.gasBefore ≤ t.gasLimit)
    (hself : t.toWallet ≠ some t.sender) :
    (stepEth s t x).2.dSender + (stepEth s t x).2.dCollector =
      -((valueMoved t x (stepEth s t x).2.cls : Nat) : Int) := by
  -- `hx` is not needed
  rw [dSender_add_dCollector, if_neg hself]

end Block

/-! ## Non-vacuity -/
def exW : World :=
  { acc := ((FMap.empty none).set 1 (some ⟨.base, 0, 1⟩)).set 9 (some ⟨.module, 0, 2⟩),
    bal := (FMap.empty 0).set (pair 1 0) 100, supply := (FMap.empty 0).set 0 100, codeHash := FMap.empty 0,
    storage := FMap.empty none, allow := FMap.empty 0, nextAcc := 3, events := 0, now := 0, evmMod := 9, blocked := [9] }
example : (transfer exW 1 2 30).toOption.map (fun w => (w.balOf 1 0, w.balOf 2 0, w.balOf 9 0, w.supply.get 0)) = some (70, 30, 0, 100) := by
  decide +kernel
example : (exW.mintTo 9 0 5).toOption.isNone = true := by decide +kernel   -- AddBalance to the module account is refused

end Evermint
