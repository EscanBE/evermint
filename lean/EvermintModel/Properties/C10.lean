import EvermintModel.Proofs.Erc20
/-!
# C10 — the ERC-20 precompile is an exact view of one bank denomination

Laws of views, moves, logs, failure and the code's allowance table are proved for every state and
call.  The allowance *safety* clause ("nobody can move or burn another holder's coins beyond the
allowance that holder approved") is stated against a per-token ghost table; it is **false** of the
current code when two ERC-20 precompiles exist (`C10_full_fails`, finding F5: the store key has no
token component) and proved for histories confined to one token (`C10_allowance_safety_partial`).
-/
namespace Evermint.Erc20

/-- **C10 (a failing call changes nothing).** -/
theorem C10_fail_is_noop (s : State) (c : Call) (h : (step s c).2 = .revert) : (step s c).1 = s := by
  rcases step_cases s c with hr | ⟨_, _, _, _, _, _, hs⟩
  · rw [hr]
  · rw [hs] at h; cases h

/-- **C10 (views).** `balanceOf` / `totalSupply` return the bank balance / supply of the mapped
denomination, `allowance` the stored allowance, and none of them changes anything. -/
theorem C10_views_exact (s : State) (t caller d : Nat) (hd : s.denomOf.get t = some d) :
    (∀ a, step s ⟨t, caller, .balanceOf a⟩ = (s, .ok (s.bal.get (a, d)) none)) ∧
    step s ⟨t, caller, .totalSupply⟩ = (s, .ok (s.supply.get d) none) ∧
    (∀ o sp, step s ⟨t, caller, .allowance o sp⟩ = (s, .ok (s.allow.get (o, sp)) none)) := by
  refine ⟨fun a => ?_, ?_, fun o sp => ?_⟩ <;> (unfold step; rw [hd]; rfl)

/-- **C10 (transfer).** A successful `transfer` moves exactly `amt` of the mapped denomination from the
caller to `to`, leaves every other balance and the supply untouched, emits exactly the matching
`Transfer` log and does not touch any allowance. -/
theorem C10_transfer_exact (s : State) (t caller d to amt : Nat) (hd : s.denomOf.get t = some d)
    (hok : (step s ⟨t, caller, .transfer to amt⟩).2 ≠ .revert) :
    (step s ⟨t, caller, .transfer to amt⟩).2 = .ok 1 (some (.transfer t caller to amt)) ∧
    caller ≠ 0 ∧ to ≠ 0 ∧ amt ≤ s.bal.get (caller, d) ∧
    (∀ k, (step s ⟨t, caller, .transfer to amt⟩).1.bal.get k = movedBal s d caller to amt k) ∧
    (∀ d', (step s ⟨t, caller, .transfer to amt⟩).1.supply.get d' = s.supply.get d') ∧
    (step s ⟨t, caller, .transfer to amt⟩).1.allow = s.allow := by
  obtain ⟨h0, hr, m⟩ := step_move hd (exec_transfer ..) hok
  have ⟨hc, ht⟩ := not_or.1 h0
  exact ⟨hr, hc, ht, m.le, m.bal, fun d' => (m.supply d').trans (movedSupply_of_ne_zero ht), m.allow.trans (if_pos rfl)⟩

/-- **C10 (burn).** A successful `burn` destroys exactly `amt`: the caller's balance and the supply of
the mapped denomination fall by `amt`, nothing else changes, one `Transfer(caller, 0, amt)` log. -/
theorem C10_burn_exact (s : State) (t caller d amt : Nat) (hd : s.denomOf.get t = some d)
    (hok : (step s ⟨t, caller, .burn amt⟩).2 ≠ .revert) :
    (step s ⟨t, caller, .burn amt⟩).2 = .ok 1 (some (.transfer t caller 0 amt)) ∧
    caller ≠ 0 ∧ amt ≤ s.bal.get (caller, d) ∧
    (∀ k, (step s ⟨t, caller, .burn amt⟩).1.bal.get k = movedBal s d caller 0 amt k) ∧
    (∀ d', (step s ⟨t, caller, .burn amt⟩).1.supply.get d' = movedSupply s d caller 0 amt d') ∧
    (step s ⟨t, caller, .burn amt⟩).1.allow = s.allow := by
  obtain ⟨h0, hr, m⟩ := step_move hd (exec_burn ..) hok
  exact ⟨hr, h0, m.le, m.bal, m.supply, m.allow.trans (if_pos rfl)⟩

/-- **C10 (transferFrom).** A successful `transferFrom` moves exactly `amt` from `frm` to `to` with one
matching log; a caller other than the holder needed an allowance of at least `amt`; an unlimited
allowance is left as it is, any other is reduced by exactly `amt`; no other allowance changes. -/
theorem C10_transferFrom_exact (s : State) (t caller d frm to amt : Nat) (hd : s.denomOf.get t = some d)
    (hamt : amt ≤ maxU256)
    (hok : (step s ⟨t, caller, .transferFrom frm to amt⟩).2 ≠ .revert) :
    (step s ⟨t, caller, .transferFrom frm to amt⟩).2 = .ok 1 (some (.transfer t frm to amt)) ∧
    frm ≠ 0 ∧ to ≠ 0 ∧ amt ≤ s.bal.get (frm, d) ∧
    (∀ k, (step s ⟨t, caller, .transferFrom frm to amt⟩).1.bal.get k = movedBal s d frm to amt k) ∧
    (∀ d', (step s ⟨t, caller, .transferFrom frm to amt⟩).1.supply.get d' = s.supply.get d') ∧
    (frm ≠ caller → amt ≤ s.allow.get (frm, caller)) ∧
    (∀ k, (step s ⟨t, caller, .transferFrom frm to amt⟩).1.allow.get k =
        if frm ≠ caller ∧ k = (frm, caller) ∧ s.allow.get (frm, caller) ≠ maxU256 then s.allow.get k - amt else s.allow.get k) := by
  obtain ⟨h0, hr, m⟩ := step_move hd (exec_transferFrom ..) hok
  have ⟨hf, ht⟩ := not_or.1 h0
  exact ⟨hr, hf, ht, m.le, m.bal, fun d' => (m.supply d').trans (movedSupply_of_ne_zero ht),
    fun hne => m.need hne hamt, m.allow_get⟩

/-- **C10 (burnFrom).** Same laws for burning another holder's coins. -/
theorem C10_burnFrom_exact (s : State) (t caller d a amt : Nat) (hd : s.denomOf.get t = some d)
    (hamt : amt ≤ maxU256)
    (hok : (step s ⟨t, caller, .burnFrom a amt⟩).2 ≠ .revert) :
    (step s ⟨t, caller, .burnFrom a amt⟩).2 = .ok 1 (some (.transfer t a 0 amt)) ∧
    a ≠ 0 ∧ amt ≤ s.bal.get (a, d) ∧
    (∀ k, (step s ⟨t, caller, .burnFrom a amt⟩).1.bal.get k = movedBal s d a 0 amt k) ∧
    (∀ d', (step s ⟨t, caller, .burnFrom a amt⟩).1.supply.get d' = movedSupply s d a 0 amt d') ∧
    (a ≠ caller → amt ≤ s.allow.get (a, caller)) ∧
    (∀ k, (step s ⟨t, caller, .burnFrom a amt⟩).1.allow.get k =
        if a ≠ caller ∧ k = (a, caller) ∧ s.allow.get (a, caller) ≠ maxU256 then s.allow.get k - amt else s.allow.get k) := by
  obtain ⟨h0, hr, m⟩ := step_move hd (exec_burnFrom ..) hok
  exact ⟨hr, h0, m.le, m.bal, m.supply, fun hne => m.need hne hamt, m.allow_get⟩

/-- **C10 (approve).** `approve` sets exactly one entry of the allowance table, moves no coins and
emits one `Approval` log. -/
theorem C10_approve_exact (s : State) (t caller d sp amt : Nat) (hd : s.denomOf.get t = some d)
    (hok : (step s ⟨t, caller, .approve sp amt⟩).2 ≠ .revert) :
    (step s ⟨t, caller, .approve sp amt⟩).2 = .ok 1 (some (.approval t caller sp amt)) ∧
    (step s ⟨t, caller, .approve sp amt⟩).1.bal = s.bal ∧ (step s ⟨t, caller, .approve sp amt⟩).1.supply = s.supply ∧
    (∀ k, (step s ⟨t, caller, .approve sp amt⟩).1.allow.get k = if k = (caller, sp) then amt else s.allow.get k) := by
  obtain ⟨_, s', r, l, hb, hs⟩ := step_guarded (g := caller = 0 ∨ sp = 0) hd rfl hok
  cases hb
  rw [hs]
  exact ⟨rfl, rfl, rfl, fun k => KMap.get_set ..⟩

def Genesis (s : State) : Prop := (∀ k, s.allow.get k = 0) ∧ (∀ k, s.ghost.get k = 0)

/-- the full-strength statement: over any history from genesis, a spender never takes more out of a
holder on token `t` than that holder approved for that spender **on `t`** and is still unspent -/
def C10_full : Prop :=
  ∀ (s : State) (ops : List Op) (c : Call) (o sp x : Nat), Genesis s → c.spends = some (o, sp, x) → x ≤ maxU256 →
    (step (run s ops) c).2 ≠ .revert → x ≤ (run s ops).ghost.get (c.token, o, sp)

/-- witness state: two ERC-20 precompiles (ids 50 and 51 over denoms 0 and 1), holder 1 owns 1000 of each -/
def w0 : State :=
  { denomOf := ((KMap.empty none).set 50 (some 0)).set 51 (some 1),
    bal := ((KMap.empty 0).set (1, 0) 1000).set (1, 1) 1000,
    supply := ((KMap.empty 0).set 0 1000).set 1 1000,
    allow := KMap.empty 0, blocked := [], ghost := KMap.empty 0 }

/-- **C10 fails as stated (F5).** Holder 1 approves 500 for spender 2 on token 50 only; spender 2 then
moves 400 of token 51's denomination out of holder 1. -/
theorem C10_full_fails : ¬ C10_full := by
  intro h
  have := h w0 [.call ⟨50, 1, .approve 2 500⟩] ⟨51, 2, .transferFrom 1 3 400⟩ 1 2 400
    ⟨fun _ => rfl, fun _ => rfl⟩ (by decide) (by decide) (by decide)
  revert this
  decide

def GhostAgree (s : State) (t : Nat) : Prop := ∀ o sp, s.ghost.get (t, o, sp) = s.allow.get (o, sp)

def Op.onToken (t : Nat) : Op → Prop
  | .call c => c.token = t
  | .send _ _ _ _ => True

/-- the spend hits the same entry of both tables -/
theorem Moved.ghostAgree {s s' : State} {t d caller owner to amt : Nat} (m : Moved s s' t d caller owner to amt)
    (h : GhostAgree s t) : GhostAgree s' t := by
  intro o sp
  rw [m.ghost, m.allow]
  by_cases hc : owner = caller
  · rw [if_pos hc, if_pos hc]; exact h o sp
  · rw [if_neg hc, if_neg hc, spent_get, spent_get, h, h]
    simp only [Prod.mk.injEq, true_and]

theorem ghostAgree_step (s : State) (c : Call) (t : Nat) (ht : c.token = t) (h : GhostAgree s t) :
    GhostAgree (step s c).1 t := by
  rcases step_cases s c with hr | ⟨d, s', r, l, _, he, hs⟩
  · rw [hr]; exact h
  rw [hs]
  obtain ⟨t', caller, m⟩ := c
  cases ht
  have move {g : Prop} [Decidable g] {owner to amt : Nat}
      (e : (if g then none else moveFrom s t' d caller owner to amt) = some (s', r, l)) : GhostAgree s' t' :=
    (moveFrom_spec (Option.ite_none_left_eq_some.1 e).2).2.2.ghostAgree h
  cases m with
  | balanceOf | totalSupply | allowance => cases he; exact h
  | approve sp amt =>
    cases (Option.ite_none_left_eq_some.1 he).2
    intro o sp'
    show (s.ghost.set (t', caller, sp) amt).get (t', o, sp') = (s.allow.set (caller, sp) amt).get (o, sp')
    rw [KMap.get_set, KMap.get_set, h]
    simp only [Prod.mk.injEq, true_and]
  | transfer to amt => exact move (exec_transfer .. ▸ he)
  | burn amt => exact move (exec_burn .. ▸ he)
  | transferFrom | burnFrom => exact move he

theorem bankSend_keeps (s : State) (f to d a : Nat) :
    ∃ b, (bankSend s f to d a).1 = { s with bal := b } := by
  unfold bankSend
  split
  · exact ⟨_, rfl⟩
  split
  · exact ⟨_, rfl⟩
  split <;> exact ⟨_, rfl⟩

theorem ghostAgree_apply (s : State) (op : Op) (t : Nat) (ht : op.onToken t) (h : GhostAgree s t) :
    GhostAgree (apply s op) t := by
  cases op with
  | call c => exact ghostAgree_step s c t ht h
  | send f to d a =>
    obtain ⟨b, hb⟩ := bankSend_keeps s f to d a
    show GhostAgree (bankSend s f to d a).1 t
    rw [hb]; exact h

theorem ghostAgree_run (s : State) (ops : List Op) (t : Nat) (ht : ∀ op ∈ ops, op.onToken t) (h : GhostAgree s t) :
    GhostAgree (run s ops) t :=
  List.foldlRecOn (motive := (GhostAgree · t)) ops _ h fun s hs op hop => ghostAgree_apply s op t (ht op hop) hs

theorem spend_needs_allowance (s : State) (c : Call) (o sp x : Nat) (hs : c.spends = some (o, sp, x)) (hx : x ≤ maxU256)
    (hok : (step s c).2 ≠ .revert) : x ≤ s.allow.get (o, sp) := by
  obtain ⟨d, _, _, _, hd, _, _⟩ := step_ok hok
  obtain ⟨t, caller, m⟩ := c
  cases m with
  | transferFrom frm to amt =>
    obtain ⟨hne, e⟩ := Option.ite_none_right_eq_some.1 hs
    cases e
    exact (step_move hd (exec_transferFrom ..) hok).2.2.need hne hx
  | burnFrom a amt =>
    obtain ⟨hne, e⟩ := Option.ite_none_right_eq_some.1 hs
    cases e
    exact (step_move hd (exec_burnFrom ..) hok).2.2.need hne hx
  | _ => cases hs

/-- **C10 (allowance safety, partial).** With a single ERC-20 precompile in play — every call of the
history and the spending call target the same token — the full statement holds over every history. -/
theorem C10_allowance_safety_partial (s : State) (ops : List Op) (c : Call) (o sp x : Nat) (hg : Genesis s)
    (hone : ∀ op ∈ ops, op.onToken c.token)
    (hs : c.spends = some (o, sp, x)) (hx : x ≤ maxU256) (hok : (step (run s ops) c).2 ≠ .revert) :
    x ≤ (run s ops).ghost.get (c.token, o, sp) := by
  have h0 : GhostAgree s c.token := fun o sp => by rw [hg.1, hg.2]
  rw [ghostAgree_run s ops c.token hone h0 o sp]
  exact spend_needs_allowance (run s ops) c o sp x hs hx hok

/-! non-vacuity -/
example : (step w0 ⟨50, 1, .transfer 2 300⟩).2 = .ok 1 (some (.transfer 50 1 2 300)) := by decide
example : (step w0 ⟨50, 1, .transfer 2 1001⟩).2 = .revert := by decide
example : (step (step w0 ⟨50, 1, .approve 2 500⟩).1 ⟨50, 2, .transferFrom 1 3 400⟩).1.allow.get (1, 2) = 100 := by decide
example : (step (step w0 ⟨50, 1, .approve 2 maxU256⟩).1 ⟨50, 2, .burnFrom 1 400⟩).1.allow.get (1, 2) = maxU256 := by decide

end Evermint.Erc20
