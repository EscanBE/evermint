import EvermintModel.Model.VAuth
/-!
# C16 — vesting accounts only for proven EOAs; proofs unforgeable and final

The routing part ("a user transaction can create a vesting account only for an address that already
has a stored proof", at any nesting depth) is `Evermint.Ante.C16_gate` in `Properties/C07.lean`.
This file covers the proof store.
-/
namespace Evermint.VAuth

/-- every stored proof carries a signature that recovers, for the module's fixed message, to the very
address it is stored under -/
def Sound (s : State) : Prop := ∀ a sg, s.proofs.get a = some sg → sg.recovers = some a

theorem validateBasic_spec {m : Msg} (h : validateBasic m = true) :
    m.submitter ≠ m.account ∧ m.sig.recovers = some m.account := by
  unfold validateBasic at h
  simp only [Bool.and_eq_true, bne_iff_ne, ne_eq, beq_iff_eq] at h
  exact ⟨h.1.1, h.2⟩

theorem submit_cases (s : State) (m : Msg) :
    ((submit s m).2 ≠ .ok ∧ (submit s m).1 = s) ∨
    ((submit s m).2 = .ok ∧ validateBasic m = true ∧ s.proofs.get m.account = none ∧ cost ≤ s.bal.get m.submitter ∧
      m.sig.lower = true ∧
      (submit s m).1 = { proofs := s.proofs.set m.account (some m.sig),
                         bal := s.bal.set m.submitter (s.bal.get m.submitter - cost), supply := s.supply - cost }) := by
  generalize hr : submit s m = r
  unfold submit at hr
  -- each of the four checks refuses with the state as it was
  iterate 4 (split at hr; · subst hr; exact .inl ⟨nofun, rfl⟩)
  rename_i h1 h2 h3 h4
  subst hr
  exact .inr ⟨rfl, by simpa using h1, by simpa using h2, Nat.le_of_not_lt h3, by simpa using h4, rfl⟩

/-- **C16 (a rejected submission stores nothing and burns nothing).** -/
theorem C16_reject_noop (s : State) (m : Msg) (h : (submit s m).2 ≠ .ok) : (submit s m).1 = s := by
  rcases submit_cases s m with ⟨_, h2⟩ | ⟨h1, _⟩
  · exact h2
  · exact absurd h1 h

/-- **C16 (cost).** A successful submission costs the submitter exactly the fixed fee and the fee is
burnt (total supply falls by it); nobody else's balance moves. -/
theorem C16_cost (s : State) (m : Msg) (h : (submit s m).2 = .ok) :
    (submit s m).1.bal.get m.submitter + cost = s.bal.get m.submitter ∧
    (∀ a, a ≠ m.submitter → (submit s m).1.bal.get a = s.bal.get a) ∧
    (submit s m).1.supply = s.supply - cost := by
  rcases submit_cases s m with ⟨h1, _⟩ | ⟨_, _, _, hc, _, he⟩
  · exact absurd h h1
  · rw [he]
    exact ⟨by rw [FMap.get_set_eq]; omega, fun a ha => FMap.get_set_ne _ _ _ _ ha, rfl⟩

/-- **C16 (a proof is stored only with a signature of the key controlling the address).** -/
theorem C16_stored_signed (s : State) (m : Msg) (h : (submit s m).2 = .ok) :
    (submit s m).1.proofs.get m.account = some m.sig ∧ m.sig.recovers = some m.account ∧ m.submitter ≠ m.account := by
  rcases submit_cases s m with ⟨h1, _⟩ | ⟨_, hv, _, _, _, he⟩
  · exact absurd h h1
  · rw [he]
    exact ⟨FMap.get_set_eq .., (validateBasic_spec hv).2, (validateBasic_spec hv).1⟩

theorem sound_step (s : State) (m : Msg) (hs : Sound s) : Sound (submit s m).1 := by
  rcases submit_cases s m with ⟨_, h2⟩ | ⟨_, hv, _, _, _, he⟩
  · rw [h2]; exact hs
  · rw [he]
    intro a sg hg
    by_cases ha : a = m.account
    · rw [ha, FMap.get_set_eq] at hg
      cases hg
      rw [ha]; exact (validateBasic_spec hv).2
    · rw [FMap.get_set_ne _ _ _ _ ha] at hg
      exact hs a sg hg

theorem final_step (s : State) (m : Msg) (a : Nat) (sg : Sig) (h : s.proofs.get a = some sg) :
    (submit s m).1.proofs.get a = some sg := by
  rcases submit_cases s m with ⟨_, h2⟩ | ⟨_, _, hn, _, _, he⟩
  · rw [h2]; exact h
  · rw [he]
    exact (FMap.get_set_ne _ _ _ _ fun e => by rw [e, hn] at h; cases h).trans h

/-- **C16 (unforgeable, over every history).** Starting from a store that is sound (genesis has no
proofs), after any sequence of submissions every proven address has a signature recovering to it. -/
theorem C16_proof_sound (s : State) (ms : List Msg) (hs : Sound s) : Sound (run s ms) := by
  induction ms generalizing s with
  | nil => exact hs
  | cons m ms ih => exact ih _ (sound_step s m hs)

/-- **C16 (final).** A proven address can never be proved again or overwritten: its stored proof is the
same after any later history. -/
theorem C16_final (s : State) (ms : List Msg) (a : Nat) (sg : Sig) (h : s.proofs.get a = some sg) :
    (run s ms).proofs.get a = some sg := by
  induction ms generalizing s with
  | nil => exact h
  | cons m ms ih => exact ih _ (final_step s m a sg h)

theorem genesis_sound (bal : FMap Nat) (sup : Nat) : Sound { proofs := FMap.empty none, bal := bal, supply := sup } :=
  fun _ _ h => nomatch h

/-! non-vacuity: a history with an accepted, a forged, a repeated and an upper-case submission -/
def g0 : State := { proofs := FMap.empty none, bal := (FMap.empty 0).set 1 (3 * cost), supply := 10 * cost }
def goodSig : Sig := { wellFormed := true, recovers := some 7, lower := true }
example : (submit g0 { submitter := 1, account := 7, sig := goodSig }).2 = .ok := by decide
example : (submit g0 { submitter := 1, account := 8, sig := goodSig }).2 = .basic := by decide
example : (submit (submit g0 { submitter := 1, account := 7, sig := goodSig }).1 { submitter := 1, account := 7, sig := goodSig }).2 = .conflict := by decide
example : (submit g0 { submitter := 1, account := 7, sig := { goodSig with lower := false } }).2 = .panic := by decide
example : (submit g0 { submitter := 2, account := 7, sig := goodSig }).2 = .funds := by decide

end Evermint.VAuth
