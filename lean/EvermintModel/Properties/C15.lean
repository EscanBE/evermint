import EvermintModel.Model.StateDB
import EvermintModel.Proofs.World
/-!
# C15 — EVM execution cannot destroy protected accounts or spend vesting-locked coins

Theorems over the `World` / StateDB model that E-statedb ties to `/repo/x/evm/vm/state_db.go`
(`DestroyAccount`, `CommitMultiStore`), `x/evm/utils/validation.go` (destroy guard, evaluated at the
**block time** `w.now`) and `x/evm/keeper/keeper.go IsEmptyAccount`.
-/
namespace Evermint.World

/-- a module account, or a vesting account whose vesting period has not ended as of the block time -/
def isProtected (w : World) (a : Addr) : Prop :=
  match w.acc.get a with
  | some { kind := .module, .. } => True
  | some { kind := .vesting endT _, .. } => endT > w.now
  | _ => False

theorem protected_not_destroyable (w : World) (a : Addr) (h : w.isProtected a) : w.destroyable a = false := by
  unfold isProtected at h
  unfold destroyable
  split at h
  · rename_i hg; simp only [hg]
  · rename_i hg; simp only [hg]; simpa using h
  · exact h.elim

/-- **C15 (destroy guard).** `DestroyAccount` succeeds only for an account that is neither a module
account nor a vesting account still vesting at the block time; otherwise it panics (tx aborts). -/
theorem C15_destroy_needs_unprotected (w w' : World) (a : Addr) (h : w.destroyAccount a = .ok w') : ¬ w.isProtected a :=
  fun hp => by simpa [protected_not_destroyable w a hp] using (destroyAccount_ok h).1

/-- **C15 (deleted accounts are removed completely: record, code hash, all storage).** -/
theorem C15_delete_complete (w w' : World) (a : Addr) (h : w.destroyAccount a = .ok w') :
    w'.acc.get a = none ∧ w'.codeHash.get a = 0 ∧ w'.hasStorage a = false := by
  obtain ⟨_, _, _, _, rfl⟩ := destroyAccount_ok h
  refine ⟨FMap.get_set_eq .., FMap.get_set_eq .., ?_⟩
  -- every entry `eraseIf` leaves has another address, so the key filter of `storageKeysOf` leaves none
  unfold hasStorage storageKeysOf
  simp only [FMap.eraseIf, Bool.not_eq_eq_eq_not, Bool.not_false, List.isEmpty_iff, List.map_eq_nil_iff, List.filter_eq_nil_iff]
  intro e he
  simp only [List.mem_filter, Bool.not_eq_true'] at he
  simp [he.2]

theorem destroyAccount_others (w w' : World) (a b : Addr) (h : w.destroyAccount a = .ok w') (hne : b ≠ a) :
    w'.acc.get b = w.acc.get b := by
  obtain ⟨_, _, _, _, rfl⟩ := destroyAccount_ok h
  exact FMap.get_set_ne _ _ _ _ hne

theorem destroyAccount_now (w w' : World) (a : Addr) (h : w.destroyAccount a = .ok w') : w'.now = w.now := by
  obtain ⟨_, _, _, _, rfl⟩ := destroyAccount_ok h; rfl

theorem isProtected_congr (w w' : World) (a : Addr) (h1 : w'.acc.get a = w.acc.get a) (h2 : w'.now = w.now) :
    w'.isProtected a ↔ w.isProtected a := by
  unfold isProtected; rw [h1, h2]

theorem commitLoop_acc (de : Bool) (sd : List Addr) (as : List Addr) (w w' : World)
    (h : commitLoop de sd as w = .ok w') :
    w'.now = w.now ∧ ∀ a, w'.acc.get a = w.acc.get a ∨
      a ∈ as ∧ w'.acc.get a = none ∧ ¬ w.isProtected a ∧ (sd.contains a = true ∨ de = true) := by
  induction as generalizing w with
  | nil => cases h; exact ⟨rfl, fun _ => .inl rfl⟩
  | cons x as ih =>
    unfold commitLoop at h
    split at h
    · rename_i hc
      obtain ⟨w1, hd, h⟩ := ok_of_bind h
      obtain ⟨hnow, ih⟩ := ih w1 h
      refine ⟨hnow.trans (destroyAccount_now w w1 x hd), fun a => ?_⟩
      by_cases hax : a = x
      · subst hax
        have hgone : w'.acc.get a = none :=
          (ih a).elim (·.trans (C15_delete_complete w w1 a hd).1) fun ⟨_, hg, _⟩ => hg
        have hwhy : sd.contains a = true ∨ de = true := by
          simp only [Bool.or_eq_true, Bool.and_eq_true] at hc; exact hc.imp_right (·.1)
        exact .inr ⟨List.mem_cons_self .., hgone, C15_destroy_needs_unprotected w w1 a hd, hwhy⟩
      · have o := destroyAccount_others w w1 x a hd hax
        rw [← o, ← isProtected_congr w w1 a o (destroyAccount_now w w1 x hd)]
        exact (ih a).imp_right (And.imp_left (.tail _))
    · obtain ⟨hnow, ih⟩ := ih w h
      exact ⟨hnow, fun a => (ih a).imp_right (And.imp_left (.tail _))⟩

/-- **C15 (commit never deletes, replaces or re-types a protected account).** Whatever was touched or
self-destructed, a successful `CommitMultiStore` leaves every module account and every vesting account
still vesting at the block time exactly as it was; if the loop would have to destroy one, the commit
fails as a whole. -/
theorem C15_commit_keeps_protected (de : Bool) (sd : List Addr) :
    ∀ (as : List Addr) (w w' : World), commitLoop de sd as w = .ok w' →
      ∀ a, w.isProtected a → w'.acc.get a = w.acc.get a ∧ w'.isProtected a := by
  intro as w w' h a hp
  obtain ⟨hnow, hacc⟩ := commitLoop_acc de sd as w w' h
  have hsame : w'.acc.get a = w.acc.get a := (hacc a).elim id fun ⟨_, _, hnp, _⟩ => absurd hp hnp
  exact ⟨hsame, (isProtected_congr w w' a hsame hnow).2 hp⟩

/-- **C15 (no silent deletion).** An account that exists before the commit and is gone after it was on
the touched list and was either self-destructed or — with `deleteEmpty` — empty (no code, zero in every
denomination, nonce 0, no storage) at the moment the loop reached it. -/
theorem C15_no_silent_delete (de : Bool) (sd : List Addr) :
    ∀ (as : List Addr) (w w' : World), commitLoop de sd as w = .ok w' →
      ∀ a, (w.acc.get a).isSome → w'.acc.get a = none → a ∈ as ∧ (sd.contains a = true ∨ de = true) := by
  intro as w w' h a h1 h2
  rcases (commitLoop_acc de sd as w w' h).2 a with hsame | ⟨hmem, _, _, hwhy⟩
  · rw [← hsame, h2] at h1; cases h1
  · exact ⟨hmem, hwhy⟩

/-- **C15 (vesting-locked coins are never spent).** Every debit the StateDB or a precompile performs goes
through the bank send, which refuses more than the spendable amount as of the block time. -/
theorem C15_locked_never_spent (w w' : World) (f t : Addr) (d : Denom) (n : Nat)
    (h : w.sendCoins f t d n = .ok w') : n ≤ w.spendable f d ∧ n + w.locked f d ≤ w.balOf f d ∨ n ≤ w.spendable f d :=
  .inr (sendCoins_ok h).1

theorem C15_subBalance_respects_lock (w w' : World) (a : Addr) (n : Nat) (hn : n ≠ 0)
    (h : w.burnFrom a evmDenom n = .ok w') : n ≤ w.spendable a evmDenom :=
  burnFrom_le h   -- `hn` is not needed: a zero amount is always spendable

/-! non-vacuity: a module account and an unexpired vesting account are protected, an expired one is not -/
def wx : World :=
  { acc := ((FMap.empty none).set 1 (some ⟨.module, 0, 1⟩)).set 2 (some ⟨.vesting 100 5, 0, 2⟩),
    bal := FMap.empty 0, supply := FMap.empty 0, codeHash := FMap.empty 0, storage := FMap.empty none, allow := FMap.empty 0,
    nextAcc := 3, events := 0, now := 50, evmMod := 1, blocked := [1] }
example : wx.isProtected 1 ∧ wx.isProtected 2 ∧ ¬ ({ wx with now := 100 } : World).isProtected 2 :=
  ⟨trivial, (by decide : 100 > 50), (by decide : ¬ 100 > 100)⟩
example : (wx.destroyAccount 2).isOk = false := by decide

end Evermint.World
