import EvermintModel.Model.Genesis
/-!
# C18 — genesis export / import round-trips the custom modules' state

`C18_full` (everything observable survives) is **false** of the current code (finding F10): ERC-20
precompiles deployed after genesis, disabled flags, allowances and ownership proofs have no place in the
exported genesis.  Proved: exactness for fee market and EVM contracts, the precise condition under which
the cpc / vauth part survives, and idempotence of export ∘ import ∘ export for every state.
-/
namespace Evermint.Genesis

/-- the full-strength statement -/
def C18_full : Prop := ∀ s : State, (∀ c ∈ s.contracts, c.code ≠ 0) → import_ (export_ s) = s

/-- a chain with one ERC-20 precompile deployed by message, one allowance and one proof -/
def lossy : State :=
  { contracts := [], evmParams := 0, feeParams := 0, baseFee := 7, cpcVersion := 1, cpcWhitelist := [3],
    cpc := [⟨Cpc.bech32Addr, Cpc.tyBech32, 0, false⟩, ⟨Cpc.createAddr 0, Cpc.tyErc20, 5, false⟩],
    allowances := [(1, 2, 500)], proofs := [9] }

/-- **C18 fails as stated (F10).** -/
theorem C18_full_fails : ¬ C18_full := by
  intro h
  have := h lossy (by intro c hc; cases hc)
  revert this
  decide

/-- **C18 (fee market).** All parameters including the current base fee survive. -/
theorem C18_feemarket_roundtrip (s : State) :
    (import_ (export_ s)).feeParams = s.feeParams ∧ (import_ (export_ s)).baseFee = s.baseFee := ⟨rfl, rfl⟩

/-- **C18 (EVM).** Every contract (address with a code hash) comes back with its code and every storage
entry, zero-valued entries included; parameters too.  An address that has storage but no code hash is
not exported. -/
theorem C18_evm_roundtrip (s : State) :
    (import_ (export_ s)).contracts = s.contracts.filter (fun c => c.code != 0) ∧
    (import_ (export_ s)).evmParams = s.evmParams := ⟨rfl, rfl⟩

theorem C18_evm_roundtrip_exact (s : State) (h : ∀ c ∈ s.contracts, c.code ≠ 0) :
    (import_ (export_ s)).contracts = s.contracts := by
  rw [(C18_evm_roundtrip s).1]
  apply List.filter_eq_self.2
  intro c hc
  simpa using h c hc

/-- what survives of the precompile registry: exactly the genesis-deployable contracts -/
def cpcSurvives (s : State) : Prop :=
  s.cpc = (if s.cpc.any (fun e => e.addr == Cpc.stakingAddr) then [⟨Cpc.stakingAddr, Cpc.tyStaking, 0, false⟩] else []) ++
          [⟨Cpc.bech32Addr, Cpc.tyBech32, 0, false⟩]

/-- **C18 (cpc, vauth — partial).** The whole state round-trips exactly when: every stored address with
storage has code, the registry holds only the bech32 contract and optionally the staking contract, both
enabled, there are no allowances and no proofs. -/
theorem C18_roundtrip_partial (s : State) (h1 : ∀ c ∈ s.contracts, c.code ≠ 0) (h2 : cpcSurvives s)
    (h3 : s.allowances = []) (h4 : s.proofs = []) : import_ (export_ s) = s := by
  have hc := C18_evm_roundtrip_exact s h1
  cases s with
  | mk contracts evmParams feeParams baseFee cpcVersion cpcWhitelist cpc allowances proofs =>
    simp only [] at h3 h4 hc h2
    subst h3 h4
    unfold cpcSurvives at h2
    simp only [import_, export_, exportEvm, exportCpc] at hc ⊢
    simp only [State.mk.injEq, and_true, true_and]
    refine ⟨hc, ?_⟩
    simp only [Bool.false_eq_true, if_false, List.append_nil]
    exact h2.symm

/-- the staking flag is exported as "the staking address is registered", and of the three addresses `InitGenesis`
can register only the staking contract's is that one -/
theorem staking_flag_stable (g : Exported) : (exportCpc (import_ g)).staking = g.cpc.staking := by
  obtain ⟨_, _, ⟨_, _, e, st⟩, _⟩ := g
  cases st <;> cases e <;> rfl

/-- **C18 (second export).** Exporting the re-imported state yields the same export again — for every
state, including the lossy ones. -/
theorem C18_export_idempotent (s : State) : export_ (import_ (export_ s)) = export_ s := by
  simp only [export_, import_, exportEvm, exportCpc, Exported.mk.injEq, EvmGen.mk.injEq, CpcGen.mk.injEq, and_true, true_and]
  refine ⟨?_, ?_⟩
  · simp [List.filter_filter]
  · exact staking_flag_stable (export_ s)

/-! non-vacuity -/
def clean : State :=
  { contracts := [⟨11, 3, [(0, 0), (1, 42)]⟩], evmParams := 1, feeParams := 2, baseFee := 875, cpcVersion := 1, cpcWhitelist := [],
    cpc := [⟨Cpc.stakingAddr, Cpc.tyStaking, 0, false⟩, ⟨Cpc.bech32Addr, Cpc.tyBech32, 0, false⟩], allowances := [], proofs := [] }
example : import_ (export_ clean) = clean := by decide
example : (import_ (export_ lossy)).cpc.length = 1 ∧ (import_ (export_ lossy)).proofs = [] := by decide

end Evermint.Genesis
