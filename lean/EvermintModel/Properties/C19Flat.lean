import EvermintModel.Properties.C19Inj
import Std.Data.String.ToNat
/-!
# C19 — from the flattened message back to the sign document

`C19_typed_injective` ends at the *flattened* message (`FlattenPayloadMessages`: the array `msgs` replaced by the
members `msg0`, `msg1`, …).  This file closes the remaining step: the flattening is injective on documents that
have no top-level member named `msg<i>` of their own (no real sign document has one: its members are
`account_number`, `chain_id`, `fee`, `memo`, `msgs`, `sequence`, `timeout_height`) and whose top-level member
names are distinct.  Without the first hypothesis it is not (`C19_flatten_collides`: a document carrying a member
`msg1` beside a one-element `msgs` flattens to the same message as the document with two messages), which is why
`flatten` refusing *existing* `msg<i>` for `i < len(msgs)` alone would not be enough.

`C19_document_injective` then joins the two theorems: equal renderings ⇒ equal chain id, the same `msgs` array
element by element, and the same value for every other top-level member.
-/
namespace Evermint.Eip712

theorem msgField_ne_msgs (i : Nat) : msgField i ≠ "msgs" := by
  intro h
  have h2 : Nat.repr i = "s" := (String.append_right_inj "msg").1 h
  -- a decimal numeral has no `s`
  have h3 := (String.isNat_iff.1 (Nat.isNat_repr i)).2.1 's'
  simp [h2] at h3

theorem msgField_inj (i j : Nat) (h : msgField i = msgField j) : i = j := by
  unfold msgField at h
  exact Nat.repr_injective ((String.append_right_inj _).1 h)

/-- the members the flattening adds, from index `i` on -/
def tagged : Nat → List J → List (String × J)
  | _, [] => []
  | i, m :: rest => (msgField i, m) :: tagged (i + 1) rest

theorem tagged_length : ∀ (ms : List J) (i : Nat), (tagged i ms).length = ms.length
  | [], _ => rfl
  | _ :: r, i => by simp [tagged, tagged_length r (i + 1)]

theorem go_spec : ∀ (ms : List J) (i : Nat) (acc r : List (String × J)),
    flatten.go i ms acc = some r → r = acc ++ tagged i ms
  | [], i, acc, r, h => by cases h; exact (List.append_nil _).symm
  | m :: rest, i, acc, r, h => by
    simp only [flatten.go] at h
    split at h
    · cases h
    · split at h
      · rw [go_spec rest (i + 1) _ r h, List.append_assoc]; rfl
      · cases h

theorem lookup_filter_ne {kvs : List (String × J)} {k s : String} (hk : k ≠ s) :
    lookup (kvs.filter (·.1 != s)) k = lookup kvs k := by
  simp only [lookup, List.find?_filter]
  congr 2; funext p
  by_cases h : p.1 = k <;> simp [h, hk]

theorem not_mem_of_lookup_none : ∀ (kvs : List (String × J)) (k : String), lookup kvs k = none → ∀ v, (k, v) ∉ kvs :=
  fun _ _ => lookup_eq_none_iff.1

theorem tagged_keys : ∀ (ms : List J) (i : Nat), ∀ kv ∈ tagged i ms, ∃ j, kv.1 = msgField j
  | [], _ => nofun
  | _ :: rest, i => List.forall_mem_cons.2 ⟨⟨i, rfl⟩, tagged_keys rest (i + 1)⟩

theorem lookup_tagged_other {ms : List J} {i : Nat} {k : String} (h : ∀ j, k ≠ msgField j) : lookup (tagged i ms) k = none :=
  lookup_eq_none_iff.2 fun _ hm => (tagged_keys ms i _ hm).elim h

theorem tagged_filter (ms : List J) (i : Nat) : (tagged i ms).filter (·.1 != "msgs") = tagged i ms := by
  refine List.filter_eq_self.2 fun kv hkv => ?_
  obtain ⟨j, hj⟩ := tagged_keys ms i kv hkv
  simpa [hj] using msgField_ne_msgs j

theorem lookup_tagged : ∀ (ms : List J) (i j : Nat), lookup (tagged i ms) (msgField (i + j)) = ms[j]?
  | [], _, _ => rfl
  | m :: rest, i, 0 => by rw [tagged, lookup_cons]; exact if_pos rfl
  | m :: rest, i, j + 1 => by
    have hne : msgField i ≠ msgField (i + (j + 1)) := fun e => by have := msgField_inj _ _ e; omega
    have ih := lookup_tagged rest (i + 1) j
    rw [Nat.add_right_comm] at ih
    rw [tagged, lookup_cons, if_neg hne]
    exact ih

def NoMsgKeys (kvs : List (String × J)) : Prop := ∀ i, lookup kvs (msgField i) = none

theorem flatten_some {doc : J} {m : List (String × J)} {n : Nat} (h : flatten doc = some (m, n)) :
    ∃ kvs msgs, doc = .obj kvs ∧ lookup kvs "msgs" = some (.arr msgs) ∧
      m = kvs.filter (·.1 != "msgs") ++ tagged 0 msgs ∧ n = msgs.length := by
  unfold flatten at h
  split at h
  next kvs =>
    split at h
    next msgs hl =>
      split at h
      next acc hg =>
        cases h
        exact ⟨kvs, msgs, rfl, hl, by rw [go_spec msgs 0 kvs acc hg, List.filter_append, tagged_filter], rfl⟩
      · cases h
    · cases h
  · cases h

theorem sameList_of_index : ∀ (xs ys : List J), ys.length ≤ xs.length →
    (∀ (j : Nat) x, xs[j]? = some x → ∃ y, ys[j]? = some y ∧ Same x y) → SameList xs ys
  | [], [], _, _ => trivial
  | [], _ :: _, h, _ => by cases h
  | x :: _, [], _, h => by obtain ⟨_, hy, _⟩ := h 0 x rfl; cases hy
  | x :: xs, y :: ys, hl, h => by
    obtain ⟨_, hy, hs⟩ := h 0 x rfl
    cases hy
    exact ⟨hs, sameList_of_index xs ys (Nat.le_of_succ_le_succ hl) fun j => h (j + 1)⟩

/-- **The flattening is injective** on documents with distinct top-level names, none of them `msg<i>`. -/
theorem C19_flatten_injective (kvs1 kvs2 : List (String × J)) (msgs1 msgs2 : List J)
    (nd1 : (kvs1.map (·.1)).Nodup)
    (nm1 : NoMsgKeys kvs1) (nm2 : NoMsgKeys kvs2)
    (hs : Same (.obj (kvs1.filter (·.1 != "msgs") ++ tagged 0 msgs1))
               (.obj (kvs2.filter (·.1 != "msgs") ++ tagged 0 msgs2))) :
    SameList msgs1 msgs2 ∧
      ∀ k v, k ≠ "msgs" → lookup kvs1 k = some v → ∃ y, lookup kvs2 k = some y ∧ Same v y := by
  obtain ⟨hlen, hsf⟩ := hs
  have hlook := sameFields_iff.1 hsf
  have top : ∀ k v, k ≠ "msgs" → lookup kvs1 k = some v → ∃ y, lookup kvs2 k = some y ∧ Same v y := by
    intro k v hk hl
    have hnot : ∀ j, k ≠ msgField j := by
      intro j e; subst e; rw [nm1 j] at hl; cases hl
    simpa only [lookup_append, lookup_filter_ne hk, lookup_tagged_other hnot, Option.or_none] using
      hlook (k, v) (List.mem_append_left _ (List.mem_filter.2 ⟨lookup_mem hl, by simpa using hk⟩))
  have idx : ∀ (j : Nat) x, msgs1[j]? = some x → ∃ y, msgs2[j]? = some y ∧ Same x y := by
    intro j x hx
    -- `msg_j` of the first document is matched in the second, whose other members have no `msg_j` (`nm2`): by its own `msg_j`
    simpa only [lookup_append, lookup_filter_ne (msgField_ne_msgs _), nm2 (0 + j), lookup_tagged, Option.none_or] using
      hlook _ (List.mem_append_right _ (lookup_mem ((lookup_tagged msgs1 0 j).trans hx)))
  -- The second document has no more messages than the first, so `idx` covers them all: both flattened objects have
  -- the same number of entries, and the other members of the first are distinct and occur among those of the second.
  have hsub : (kvs1.filter (·.1 != "msgs")).map (·.1) ⊆ (kvs2.filter (·.1 != "msgs")).map (·.1) := by
    intro k hk
    obtain ⟨⟨k', v⟩, hmem, rfl⟩ := List.mem_map.1 hk
    have hf := List.mem_filter.1 hmem
    have hne : k' ≠ "msgs" := by simpa using hf.2
    obtain ⟨y, hy, _⟩ := top k' v hne (lookup_of_mem_nodup nd1 hf.1)
    exact List.mem_map.2 ⟨(k', y), List.mem_filter.2 ⟨lookup_mem hy, by simpa using hne⟩, rfl⟩
  have hnd : ((kvs1.filter (·.1 != "msgs")).map (·.1)).Nodup :=
    List.Nodup.sublist (List.Sublist.map _ List.filter_sublist) nd1
  have hle := hnd.length_le_of_subset hsub
  simp only [List.length_append, List.length_map, tagged_length] at hlen hle
  exact ⟨sameList_of_index _ _ (by omega) idx, top⟩

/-- A document with a member `msg1` of its own and one message flattens to the same message as the document with
two messages: the refusal of *clashing* `msg<i>` in `FlattenPayloadMessages` covers `i < len(msgs)` only. -/
theorem C19_flatten_collides :
    flatten (.obj [("msgs", .arr [.obj [("a", .num 1)]]), ("msg1", .obj [("a", .num 2)])]) =
      some ([("msg1", .obj [("a", .num 2)]), ("msg0", .obj [("a", .num 1)])], 1) ∧
    flatten (.obj [("msgs", .arr [.obj [("a", .num 1)], .obj [("a", .num 2)]])]) =
      some ([("msg0", .obj [("a", .num 1)]), ("msg1", .obj [("a", .num 2)])], 2) := by
  constructor <;> rfl

/-- a top-level name that cannot be `msg<i>`: it is `msgs`, or does not start with `msg` -/
def topKeyOK (k : String) : Bool := k == "msgs" || k.toList.take 3 != ['m', 's', 'g']

theorem topKeyOK_msgField (i : Nat) : topKeyOK (msgField i) = false := by
  have h : (msgField i).toList.take 3 = ['m', 's', 'g'] := by simp [msgField, String.toList_append]
  simp [topKeyOK, msgField_ne_msgs, h]

def topOK (doc : J) : Bool :=
  match doc with
  | .obj kvs => decide ((kvs.map (·.1)).Nodup) && kvs.all (fun kv => topKeyOK kv.1)
  | _ => false

theorem topOK_sound (kvs : List (String × J)) (h : topOK (.obj kvs) = true) :
    (kvs.map (·.1)).Nodup ∧ NoMsgKeys kvs := by
  simp only [topOK, Bool.and_eq_true, decide_eq_true_eq] at h
  refine ⟨h.1, fun i => lookup_eq_none_iff.2 fun v hm => ?_⟩
  have := List.all_eq_true.1 h.2 _ hm
  rw [topKeyOK_msgField] at this; cases this

theorem wrap_of_docOK {c : Nat} {doc : J} (h : docOK c doc = true) : ∃ td, wrap doc = some td := by
  cases hw : wrap doc with
  | none => simp [docOK, hw] at h
  | some td => exact ⟨td, rfl⟩

theorem wrap_message {kvs : List (String × J)} {msgs : List J} {td : Typed}
    (hl : lookup kvs "msgs" = some (.arr msgs)) (hw : wrap (.obj kvs) = some td) :
    td.message = kvs.filter (·.1 != "msgs") ++ tagged 0 msgs := by
  unfold wrap at hw
  split at hw
  · cases hw
  next mm n hf =>
    obtain ⟨_, _, hd, hl', rfl, -⟩ := flatten_some hf
    cases hd
    cases hl.symm.trans hl'
    split at hw <;> cases hw
    rfl

/-- **C19 (one signature, one transaction), down to the sign document.**  If the EIP-712 renderings of two sign
documents coincide (domain separator and message hash, ideal hash) then the chain ids are equal, the `msgs`
arrays are the same element by element, and every other top-level member (account number, sequence, fee, memo,
timeout height, chain id string) of the first has the same value in the second. -/
theorem C19_document_injective (c1 c2 : Nat) (kvs1 kvs2 : List (String × J)) (msgs1 msgs2 : List J) (d m : Enc)
    (hm1 : lookup kvs1 "msgs" = some (.arr msgs1)) (hm2 : lookup kvs2 "msgs" = some (.arr msgs2))
    (h1 : typedEnc c1 (.obj kvs1) = some (d, m)) (h2 : typedEnc c2 (.obj kvs2) = some (d, m))
    (ok1 : docOK c1 (.obj kvs1) = true) (ok2 : docOK c2 (.obj kvs2) = true)
    (t1 : topOK (.obj kvs1) = true) (t2 : topOK (.obj kvs2) = true) :
    c1 = c2 ∧ SameList msgs1 msgs2 ∧
      ∀ k v, k ≠ "msgs" → lookup kvs1 k = some v → ∃ y, lookup kvs2 k = some y ∧ Same v y := by
  obtain ⟨td1, hw1⟩ := wrap_of_docOK ok1
  obtain ⟨td2, hw2⟩ := wrap_of_docOK ok2
  obtain ⟨hc, hsame⟩ := C19_typed_injective c1 c2 _ _ td1 td2 d m hw1 hw2 h1 h2 ok1 ok2
  rw [wrap_message hm1 hw1, wrap_message hm2 hw2] at hsame
  obtain ⟨nd1, nm1⟩ := topOK_sound kvs1 t1
  obtain ⟨_, nm2⟩ := topOK_sound kvs2 t2
  exact ⟨hc, C19_flatten_injective kvs1 kvs2 msgs1 msgs2 nd1 nm1 nm2 hsame⟩

/-- the hypotheses are met by a real-shaped sign document (two messages) -/
example : topOK sampleDoc = true ∧ docOK 9000 sampleDoc = true ∧ (typedEnc 9000 sampleDoc).isSome = true :=
  ⟨by decide +kernel, sampleDoc_ok⟩

/-- everything asked of one document, computed (what the driver evaluates on every real sign document) -/
def docOKFull (chainId : Nat) (doc : J) : Bool := docOK chainId doc && topOK doc

end Evermint.Eip712
