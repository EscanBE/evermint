import EvermintModel.Model.FeeMarket
/-!
# C09 — base fee follows EIP-1559 and bounds every executed transaction's price

Every theorem quantifies over *all* base fees, gas figures, max-gas settings and minimum prices — no bounds.
-/
namespace Evermint.FeeMarket

/-! ## EIP-1559 laws of the geth function (for every positive target) -/

/-- unchanged when usage equals the gas target -/
theorem C09_unchanged_at_target (c : Consts) (b L : Nat) :
    gethCalc c b L (L / c.elasticity) = some b := if_pos rfl

/-- above target: moved up by `b·(used−target)/target/denom`, at least 1 -/
theorem C09_increase_exact (c : Consts) (b L used : Nat)
    (hT : 0 < L / c.elasticity) (h : used > L / c.elasticity) :
    gethCalc c b L used =
      some (b + max ((used - L / c.elasticity) * b / (L / c.elasticity) / c.changeDenom) 1) := by
  simp only [gethCalc, if_neg (Nat.ne_of_gt h), if_neg (Nat.ne_of_gt hT), if_pos h]

/-- below target: moved down by `b·(target−used)/target/denom`, floored at 0 -/
theorem C09_decrease_exact (c : Consts) (b L used : Nat)
    (hT : 0 < L / c.elasticity) (h : used < L / c.elasticity) :
    gethCalc c b L used =
      some (b - (L / c.elasticity - used) * b / (L / c.elasticity) / c.changeDenom) := by
  simp only [gethCalc, if_neg (Nat.ne_of_lt h), if_neg (Nat.ne_of_gt hT), if_neg (Nat.lt_asymm h)]

/-- strictly increases above target (the "at least 1" clause) -/
theorem C09_increase_strict (c : Consts) (b L used r : Nat)
    (hT : 0 < L / c.elasticity) (h : used > L / c.elasticity)
    (hr : gethCalc c b L used = some r) : r > b := by
  rw [C09_increase_exact c b L used hT h] at hr
  injection hr with hr
  rw [← hr]
  exact Nat.lt_add_of_pos_right (Nat.lt_of_lt_of_le Nat.one_pos (Nat.le_max_right _ 1))

/-- never increases below target, never negative (ℕ) -/
theorem C09_decrease_le (c : Consts) (b L used r : Nat)
    (hT : 0 < L / c.elasticity) (h : used < L / c.elasticity)
    (hr : gethCalc c b L used = some r) : r ≤ b := by
  rw [C09_decrease_exact c b L used hT h] at hr
  injection hr with hr
  rw [← hr]
  exact Nat.sub_le _ _

/-- the result is a function of the three inputs only; the only failure is a zero target -/
theorem C09_geth_total (c : Consts) (b L used : Nat) (hT : 0 < L / c.elasticity) :
    ∃ r, gethCalc c b L used = some r := by
  rcases Nat.lt_trichotomy used (L / c.elasticity) with h | h | h
  · exact ⟨_, C09_decrease_exact c b L used hT h⟩
  · exact ⟨b, h ▸ C09_unchanged_at_target c b L⟩
  · exact ⟨_, C09_increase_exact c b L used hT h⟩

/-! ## The keeper function

`CalculateBaseFee` is `clamp` applied to the current base fee (zero gas target) or to the geth value (positive
target); each law of the keeper function is a law of `clamp`. -/

/-- what the keeper does with the next base fee `n` once it has one: saturate at 2^256−1, raise to ⌊min⌋, refuse
what `sdkmath.Int` cannot hold -/
def clamp (n minRaw : Nat) : Res :=
  if max (min n maxInt256) (minRaw / 10^18) ≤ maxInt256 then .ok (max (min n maxInt256) (minRaw / 10^18))
  else .panicOverflow

theorem calcBaseFee_zero_target {c : Consts} {mg : Option Int} (b cons minRaw : Nat)
    (hT : gasLimitOf mg / c.elasticity = 0) : calcBaseFee c b mg cons minRaw = clamp b minRaw := by
  simp only [calcBaseFee, if_pos hT]; rfl

theorem calcBaseFee_of_geth {c : Consts} {mg : Option Int} {b cons n : Nat} (minRaw : Nat)
    (hT : gasLimitOf mg / c.elasticity ≠ 0) (hg : gethCalc c b (gasLimitOf mg) (gasUsedOf mg cons) = some n) :
    calcBaseFee c b mg cons minRaw = clamp n minRaw := by
  simp only [calcBaseFee, if_neg hT, hg]; rfl

theorem calcBaseFee_eq_clamp (c : Consts) (b : Nat) (mg : Option Int) (cons minRaw : Nat) :
    ∃ n, calcBaseFee c b mg cons minRaw = clamp n minRaw := by
  by_cases hT : gasLimitOf mg / c.elasticity = 0
  · exact ⟨b, calcBaseFee_zero_target b cons minRaw hT⟩
  · obtain ⟨n, hg⟩ := C09_geth_total c b (gasLimitOf mg) (gasUsedOf mg cons) (Nat.pos_of_ne_zero hT)
    exact ⟨n, calcBaseFee_of_geth minRaw hT hg⟩

theorem clamp_ne_panicDivZero (n minRaw : Nat) : clamp n minRaw ≠ .panicDivZero := by
  unfold clamp; split <;> exact Res.noConfusion

theorem le_of_clamp_eq_ok {n minRaw r : Nat} (h : clamp n minRaw = .ok r) : minRaw / 10^18 ≤ r := by
  unfold clamp at h
  split at h
  · injection h with h; subst h; exact Nat.le_max_right _ _
  · cases h

/-- a minimum gas price that can be stored at all (a `LegacyDec` mantissa has at most 315 bits)
has an integer part within the 256-bit range -/
theorem floorMin_fits (minRaw : Nat) (h : minRaw < 2^315) : minRaw / 10^18 ≤ maxInt256 := by
  unfold maxInt256; omega

theorem clamp_of_storable (n : Nat) {minRaw : Nat} (hmin : minRaw < 2^315) :
    clamp n minRaw = .ok (max (min n maxInt256) (minRaw / 10^18)) :=
  if_pos (Nat.max_le.mpr ⟨Nat.min_le_right _ _, floorMin_fits minRaw hmin⟩)

/-- never below the integer part of the configured minimum gas price -/
theorem C09_ge_floor_min (c : Consts) (b : Nat) (mg : Option Int) (cons minRaw r : Nat)
    (h : calcBaseFee c b mg cons minRaw = .ok r) : r ≥ minRaw / 10^18 := by
  obtain ⟨n, hn⟩ := calcBaseFee_eq_clamp c b mg cons minRaw
  exact le_of_clamp_eq_ok (hn ▸ h)

/-- **No division by zero (fixed code).**  For every consensus `MaxGas` (any integer, or no block
params at all), every base fee and every gas figure. -/
theorem C09_total_no_divzero (c : Consts) (b : Nat) (mg : Option Int) (cons minRaw : Nat) :
    calcBaseFee c b mg cons minRaw ≠ .panicDivZero := by
  obtain ⟨n, hn⟩ := calcBaseFee_eq_clamp c b mg cons minRaw
  exact hn ▸ clamp_ne_panicDivZero n minRaw

/-- **Totality (fixed code).**  For *every* base fee (0 … 2^256 and beyond), every gas figure,
every `MaxGas` including −1, 0, 1 and absent block params, and every storable minimum gas
price, `CalculateBaseFee` returns a value. -/
theorem C09_total (c : Consts) (b : Nat) (mg : Option Int) (cons minRaw : Nat)
    (hmin : minRaw < 2^315) :
    ∃ r, calcBaseFee c b mg cons minRaw = .ok r := by
  obtain ⟨n, hn⟩ := calcBaseFee_eq_clamp c b mg cons minRaw
  exact ⟨_, hn.trans (clamp_of_storable n hmin)⟩

/-- and the value is the (saturated) EIP-1559 value, lower-bounded by ⌊min⌋ — exact, whenever the
gas target is positive -/
theorem C09_keeper_exact (c : Consts) (b : Nat) (mg : Option Int) (cons minRaw n : Nat)
    (hmin : minRaw < 2^315) (hT : 0 < gasLimitOf mg / c.elasticity)
    (hg : gethCalc c b (gasLimitOf mg) (gasUsedOf mg cons) = some n) :
    calcBaseFee c b mg cons minRaw = .ok (max (min n maxInt256) (minRaw / 10^18)) := by
  rw [calcBaseFee_of_geth minRaw (Nat.ne_of_gt hT) hg, clamp_of_storable n hmin]

/-- zero gas target (MaxGas = 1): the base fee is kept -/
theorem C09_zero_target_keeps (c : Consts) (b : Nat) (mg : Option Int) (cons minRaw : Nat)
    (hmin : minRaw < 2^315) (hb : b ≤ maxInt256) (hT : gasLimitOf mg / c.elasticity = 0) :
    calcBaseFee c b mg cons minRaw = .ok (max b (minRaw / 10^18)) := by
  rw [calcBaseFee_zero_target b cons minRaw hT, clamp_of_storable b hmin, Nat.min_eq_left hb]

/-- the block gas meter guarantees `used ≤ limit` for a limited meter (GasConsumedToLimit) -/
theorem gasUsed_le_limit_of_limited (m : Int) (cons : Nat) (hm : 0 < m) (hfit : m.toNat < 2^64) :
    gasUsedOf (some m) cons ≤ gasLimitOf (some m) := by
  simp only [gasUsedOf, gasLimitOf, if_pos hm, Nat.mod_eq_of_lt hfit]
  exact Nat.min_le_right _ _

/-! ## Regression record: the pinned commit (before the `fix:`) violated totality -/

theorem C09_total_fails_before_fix_maxgas0 :
    calcBaseFeeOld londonConsts 1000000000 (some 0) 21000 0 = .panicDivZero := by decide

theorem C09_total_fails_before_fix_maxgas1 :
    calcBaseFeeOld londonConsts 1000000000 (some 1) 1 0 = .panicDivZero := by decide

/-- and the fixed function returns the unchanged base fee on the same inputs -/
theorem C09_fixed_on_witnesses :
    calcBaseFee londonConsts 1000000000 (some 1) 1 0 = .ok 1000000000 ∧
    (∃ r, calcBaseFee londonConsts 1000000000 (some 0) 21000 0 = .ok r) := by
  constructor
  · decide
  · exact C09_total londonConsts 1000000000 (some 0) 21000 0 (by omega)

/-! ## Admission: no executed transaction is priced below max(baseFee, ⌊min⌋) -/

/-- effective gas price as computed both by the ante fee checker (`EthTxEffectiveGasPrice`)
and by geth's `AsMessage` -/
def effPrice (dynamic : Bool) (gasPrice tip cap base : Nat) : Nat :=
  if dynamic then min (tip + base) cap else gasPrice

/-- `getMinGasPricesAllowed` in deliver mode (validator-local min price is consulted only in check) -/
def minAllowedDeliver (base minRaw : Nat) : Nat := max base (minRaw / 10^18)

/-- `getTxPriority`'s admission test on `fee = effPrice · gas` -/
def admitted (fee gas minAllowed : Nat) : Bool := decide (fee / gas ≥ minAllowed)

theorem C09_admission (dynamic : Bool) (gasPrice tip cap base gas minRaw : Nat) (hg : 0 < gas)
    (h : admitted (effPrice dynamic gasPrice tip cap base * gas) gas (minAllowedDeliver base minRaw) = true) :
    effPrice dynamic gasPrice tip cap base ≥ base ∧
    effPrice dynamic gasPrice tip cap base ≥ minRaw / 10^18 := by
  unfold admitted at h
  simp only [decide_eq_true_eq] at h
  rw [Nat.mul_div_cancel _ hg] at h
  unfold minAllowedDeliver at h
  exact ⟨Nat.le_trans (Nat.le_max_left _ _) h, Nat.le_trans (Nat.le_max_right _ _) h⟩

/-- and then the state transition's own London check (`feeCap ≥ baseFee`) cannot disagree -/
theorem C09_admission_implies_precheck (tip cap base : Nat)
    (h : effPrice true 0 tip cap base ≥ base) : cap ≥ base := by
  unfold effPrice at h; simp only [if_true] at h
  exact Nat.le_trans h (Nat.min_le_right _ _)

/-! ## Non-vacuity -/
example : calcBaseFee londonConsts 1000000000 (some 100) 100 0 = .ok 1125000000 := by decide +kernel
example : calcBaseFee londonConsts 1000000000 (some 100) 25 0 = .ok 937500000 := by decide +kernel
example : calcBaseFee londonConsts 1000000000 (some 100) 50 (1500000000 * 10^18) = .ok 1500000000 := by decide +kernel
example : calcBaseFee londonConsts (2^256 - 1) (some 100) 100 0 = .ok (2^256 - 1) := by decide +kernel
/-- before the saturation fix the same input panicked -/
example : calcBaseFeeOld londonConsts (2^256 - 1) (some 100) 100 0 = .panicOverflow := by decide +kernel
example : admitted (effPrice true 0 5 100 10 * 21000) 21000 (minAllowedDeliver 10 0) = true := by decide +kernel

end Evermint.FeeMarket
