import EvermintModel.Proofs.Block
/-!
# C20 — no user input can crash a node or halt block production  *(partial)*

Model level.  (a) **Isolation**: in the block model (`Model/Block.lean`, tied to the real `FinalizeBlock` by
E-block) a transaction that is refused — by the ante handler other than through a panic inside it, which charges the
block gas meter (`C20_ante_panic_charges_block_gas_only`), or because the block gas is exhausted — writes nothing, so
the results of every other transaction of the block are exactly those of the block without it (`C20_isolation`), and
two different refused transactions at one position are indistinguishable for all the others (`C20_isolation_replace`).
A transaction that fails *after* the ante handler keeps exactly its ante effects (fee, sequence, transient counters):
`C05` / `C06`.  (b) **Totality of end-of-block processing**: the base-fee computation never divides by zero and fits
256 bits for every consensus `MaxGas` (`C09_total`, `C09_total_no_divzero`), and the transient receipt table always has
one slot per counted transaction, so the bloom computation of `EndBlock` finds every receipt (`C13_endBlock_total`).
The event system's channel protocol is `Properties/C20Conc.lean`.

Not covered by theorems: crash-freedom of decoding and of the SDK / CometBFT / go-ethereum code for arbitrary
bytes — E-crash explores it (labelled exploration), it is not proved.
-/
namespace Evermint.Block

/-- a refused transaction (ante handler returned an error) writes nothing -/
theorem C20_rejected_is_noop (s : BState) (t : EthTx) (x : Exec) (code : String)
    (h0 : blockExhausted s = false) (h1 : ¬ t.gasLimit < 20999) (hr : anteReject s t = some code)
    (hc : code ≠ antePanicCode) :
    (stepEth s t x).1 = s := by
  rw [stepEth_refused x h0 h1 hr, if_neg hc]

/-- a transaction on which the ante handler panics (zero effective fee: the fee checker indexes an empty coin list; the
panic is recovered by `runTx`) writes nothing but the block gas meter, which is charged the reading of the context's
meter at the panic — as for every transaction that consumed gas, later transactions see that much less block gas -/
theorem C20_ante_panic_charges_block_gas_only (s : BState) (t : EthTx) (x : Exec)
    (h0 : blockExhausted s = false) (h1 : ¬ t.gasLimit < 20999) (hr : anteReject s t = some antePanicCode) :
    (stepEth s t x).1 = { s with blockGas := s.blockGas + x.meterGas } := by
  rw [stepEth_refused x h0 h1 hr, if_pos rfl]

/-- a transaction offered after the block gas is exhausted writes nothing -/
theorem C20_dropped_is_noop (s : BState) (t : EthTx) (x : Exec) (h0 : blockExhausted s = true) : (stepEth s t x).1 = s := by
  rw [stepEth_dropped t x h0]

/-- **isolation.** If the transaction at some position leaves the block state as it found it (refused / dropped:
`C20_rejected_is_noop`, `C20_dropped_is_noop`), then the final state and the results of all the other transactions —
before and after it — are exactly those of the block without it. -/
theorem C20_isolation (s : BState) (pre post : List Item) (bad : EthTx) (xb : Exec)
    (hnoop : (stepEth (runItems s pre).1 bad xb).1 = (runItems s pre).1) :
    (runItems s (pre ++ .tx bad xb :: post)).1 = (runItems s (pre ++ post)).1 ∧
    (runItems s (pre ++ .tx bad xb :: post)).2 =
      (runItems s pre).2 ++ (bad, (stepEth (runItems s pre).1 bad xb).2) :: (runItems (runItems s pre).1 post).2 ∧
    (runItems s (pre ++ post)).2 = (runItems s pre).2 ++ (runItems (runItems s pre).1 post).2 := by
  rw [runItems_append, runItems_append]
  simp [runItems, stepItem, hnoop]

/-- two different refused transactions at the same position: every other result is the same -/
theorem C20_isolation_replace (s : BState) (pre post : List Item) (b1 b2 : EthTx) (x1 x2 : Exec)
    (h1 : (stepEth (runItems s pre).1 b1 x1).1 = (runItems s pre).1)
    (h2 : (stepEth (runItems s pre).1 b2 x2).1 = (runItems s pre).1) :
    (runItems s (pre ++ .tx b1 x1 :: post)).1 = (runItems s (pre ++ .tx b2 x2 :: post)).1 ∧
    ∃ o1 o2, (runItems s (pre ++ .tx b1 x1 :: post)).2 = (runItems s pre).2 ++ (b1, o1) :: (runItems (runItems s pre).1 post).2 ∧
             (runItems s (pre ++ .tx b2 x2 :: post)).2 = (runItems s pre).2 ++ (b2, o2) :: (runItems (runItems s pre).1 post).2 := by
  obtain ⟨a1, a2, _⟩ := C20_isolation s pre post b1 x1 h1
  obtain ⟨c1, c2, _⟩ := C20_isolation s pre post b2 x2 h2
  exact ⟨a1.trans c1.symm, _, _, a2, c2⟩

end Evermint.Block
