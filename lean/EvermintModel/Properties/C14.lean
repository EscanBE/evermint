import EvermintModel.Model.Indexer
/-!
# C14 — transaction indexer agrees with consensus results  *(indexer core; RPC views are tied by E-indexer)*

* `C14_lookup_by_hash` / `C14_lookup_by_index` — every Ethereum transaction that passed the ante handler
  is found by hash and by (block, index); the two lookups return the same record, with the transaction's
  real position in the block.
* `C14_index_eq_consensus` — the indexer's own counter equals the chain's transient transaction counter
  (both skip exactly the transactions without an `ethereum_tx` event).
* `C14_reindex_idempotent` — indexing a block again changes no lookup by hash.
* `C14_restart_skips_fails` / `C14_restart_resumes` — the restart rule: from a non-empty index the service
  resumes right after the last indexed block; from an empty one it jumps to the node's latest height, so
  blocks committed in between are never indexed (finding F12).
-/
namespace Evermint.Indexer

def cntBefore (ts : List TxRec) (i : Nat) : Nat := (ts.take i).countP (fun t => counted t)

def stored (t : TxRec) : Bool := counted t && persisted t

theorem cntBefore_zero (ts : List TxRec) : cntBefore ts 0 = 0 := rfl

theorem cntBefore_succ (t : TxRec) (ts : List TxRec) (i : Nat) :
    cntBefore (t :: ts) (i + 1) = (if counted t then 1 else 0) + cntBefore ts i := by
  simp only [cntBefore, List.take_succ_cons, List.countP_cons, Nat.add_comm]

theorem indexFrom_cons (h : Nat) (t : TxRec) (ts : List TxRec) (pos cnt : Nat) (db : Db) :
    indexFrom h (t :: ts) pos cnt db =
      indexFrom h ts (pos + 1) (cnt + if counted t then 1 else 0) (if stored t then put db h pos cnt t else db) := by
  rw [indexFrom]; unfold stored
  cases counted t <;> rfl

theorem indexFrom_get_other (h : Nat) : ∀ (ts : List TxRec) (pos cnt : Nat) (db : Db) (x : Nat),
    (∀ t ∈ ts, stored t = true → t.hash ≠ x) → (indexFrom h ts pos cnt db).byHash.get x = db.byHash.get x
  | [], _, _, _, _, _ => rfl
  | t :: ts, pos, cnt, db, x, hn => by
    rw [indexFrom_cons, indexFrom_get_other h ts _ _ _ x fun t' ht' => hn t' (List.mem_cons_of_mem _ ht')]
    split
    · rename_i hs
      exact KMap.get_set_ne _ _ _ _ fun e => hn t (List.mem_cons_self ..) hs e.symm
    · rfl

theorem indexFrom_idx_other (h : Nat) : ∀ (ts : List TxRec) (pos cnt : Nat) (db : Db) (h' k : Nat),
    (h' ≠ h ∨ k < cnt) → (indexFrom h ts pos cnt db).byIdx.get (h', k) = db.byIdx.get (h', k)
  | [], _, _, _, _, _, _ => rfl
  | t :: ts, pos, cnt, db, h', k, hk => by
    rw [indexFrom_cons, indexFrom_idx_other h ts _ _ _ h' k (hk.imp_right fun hk => by omega)]
    split
    · refine KMap.get_set_ne _ _ _ _ fun e => ?_
      cases e
      exact hk.elim (fun hk => hk rfl) (Nat.lt_irrefl _)
    · rfl

theorem indexFrom_get (h : Nat) : ∀ (ts : List TxRec) (pos cnt : Nat) (db : Db) (i : Nat) (t : TxRec),
    (ts.map (·.hash)).Nodup → ts[i]? = some t → stored t = true →
    (indexFrom h ts pos cnt db).byHash.get t.hash = some ⟨h, pos + i, cnt + cntBefore ts i, failedFlag t⟩ ∧
    (indexFrom h ts pos cnt db).byIdx.get (h, cnt + cntBefore ts i) = some t.hash
  | [], _, _, _, _, _, _, hi, _ => by simp at hi
  | t0 :: ts, pos, cnt, db, 0, t, hnd, hi, hs => by
    cases Option.some.inj hi
    rw [List.map_cons, List.nodup_cons] at hnd
    have hc : counted t0 = true := (Bool.and_eq_true_iff.1 hs).1
    rw [indexFrom_cons, if_pos hs, if_pos hc, cntBefore_zero]
    -- written now, and not touched by the rest of the loop: the hash is not repeated, the counter has moved on
    refine ⟨?_, ?_⟩
    · rw [indexFrom_get_other h ts _ _ _ t0.hash fun t' ht' _ e => hnd.1 (e ▸ List.mem_map_of_mem ht')]
      exact KMap.get_set_eq ..
    · rw [indexFrom_idx_other h ts _ _ _ h (cnt + 0) (.inr (by omega))]
      exact KMap.get_set_eq ..
  | t0 :: ts, pos, cnt, db, i + 1, t, hnd, hi, hs => by
    rw [List.map_cons, List.nodup_cons] at hnd
    have := indexFrom_get h ts (pos + 1) (cnt + if counted t0 then 1 else 0) (if stored t0 then put db h pos cnt t0 else db)
      i t hnd.2 hi hs
    rw [indexFrom_cons, cntBefore_succ]
    simpa only [Nat.add_assoc, Nat.add_comm 1 i] using this

/-- **C14 (lookup by hash).** -/
theorem C14_lookup_by_hash (db : Db) (h : Nat) (txs : List TxRec) (i : Nat) (t : TxRec)
    (hnd : (txs.map (·.hash)).Nodup) (hi : txs[i]? = some t) (hs : stored t = true) :
    getByHash (indexBlock db h txs) t.hash = some ⟨h, i, cntBefore txs i, failedFlag t⟩ := by
  have := (indexFrom_get h txs 0 0 db i t hnd hi hs).1
  rwa [Nat.zero_add, Nat.zero_add] at this

/-- **C14 (lookup by block and index agrees with lookup by hash).** -/
theorem C14_lookup_by_index (db : Db) (h : Nat) (txs : List TxRec) (i : Nat) (t : TxRec)
    (hnd : (txs.map (·.hash)).Nodup) (hi : txs[i]? = some t) (hs : stored t = true) :
    getByBlockAndIndex (indexBlock db h txs) h (cntBefore txs i) = getByHash (indexBlock db h txs) t.hash := by
  have := (indexFrom_get h txs 0 0 db i t hnd hi hs).2
  rw [Nat.zero_add] at this
  unfold getByBlockAndIndex indexBlock
  rw [this]; rfl

/-- results as the chain produces them: the `ethereum_tx` event exists exactly for decodable, valid
Ethereum transactions that passed the ante handler; a successful result of such a transaction has it -/
def WF (t : TxRec) : Prop := (t.hasEthEv = true → t.decodable = true ∧ t.isEth = true) ∧
  (t.decodable = true → t.isEth = true → t.codeOK = true → t.hasEthEv = true)

theorem counted_iff_ev (t : TxRec) (h : WF t) : counted t = t.hasEthEv := by
  obtain ⟨h1, h2⟩ := h
  unfold counted dropped
  cases hd : t.decodable <;> cases hi : t.isEth <;> cases hc : t.codeOK <;> cases he : t.hasEthEv <;> simp_all

theorem cntBefore_eq_consensus : ∀ (txs : List TxRec) (i : Nat), (∀ t ∈ txs, WF t) → cntBefore txs i = consensusIdx txs i
  | [], i, _ => by simp [cntBefore, consensusIdx]
  | t :: ts, 0, _ => rfl
  | t :: ts, i + 1, h => by
    rw [cntBefore_succ, consensusIdx, counted_iff_ev t (h t (List.mem_cons_self ..)),
      cntBefore_eq_consensus ts i fun t' ht' => h t' (List.mem_cons_of_mem _ ht')]

/-- **C14 (the indexer's counter is the chain's counter).** The `EthTxIndex` stored for a transaction equals
the `txIndex` the chain put into its `ethereum_tx` event: the number of earlier transactions of the block
that passed the ante handler. -/
theorem C14_index_eq_consensus (db : Db) (h : Nat) (txs : List TxRec) (i : Nat) (t : TxRec)
    (hnd : (txs.map (·.hash)).Nodup) (hwf : ∀ t ∈ txs, WF t) (hi : txs[i]? = some t) (hs : stored t = true) :
    getByHash (indexBlock db h txs) t.hash = some ⟨h, i, consensusIdx txs i, failedFlag t⟩ := by
  rw [C14_lookup_by_hash db h txs i t hnd hi hs, cntBefore_eq_consensus txs i hwf]

/-- every transaction that passed the ante handler is stored -/
theorem ev_stored (t : TxRec) (h : WF t) (he : t.hasEthEv = true) : stored t = true := by
  unfold stored persisted
  rw [counted_iff_ev t h, he]; simp

/-- **C14 (idempotent).** Indexing a block again changes no lookup by hash. -/
theorem C14_reindex_idempotent (db : Db) (h : Nat) (txs : List TxRec) (hnd : (txs.map (·.hash)).Nodup) (x : Nat) :
    getByHash (indexBlock (indexBlock db h txs) h txs) x = getByHash (indexBlock db h txs) x := by
  by_cases hx : ∃ (i : Nat) (t : TxRec), txs[i]? = some t ∧ stored t = true ∧ t.hash = x
  · -- a stored hash: both runs write the same record, whatever they start from
    obtain ⟨i, t, hi, hs, rfl⟩ := hx
    rw [C14_lookup_by_hash _ h txs i t hnd hi hs, C14_lookup_by_hash _ h txs i t hnd hi hs]
  · unfold getByHash indexBlock
    rw [indexFrom_get_other h txs 0 0 _ x]
    intro t ht hs e
    obtain ⟨i, hi⟩ := List.getElem?_of_mem ht
    exact hx ⟨i, t, hi, hs, e⟩

/-- **C14 (restart from a non-empty index).** The service resumes right after the last block found in the
index, whatever the node's latest height is. -/
theorem C14_restart_resumes (l latest : Nat) : resumeAfter (some l) latest = l := rfl

/-- the full-strength crash-convergence statement for the restart rule: wherever the service died, it
resumes at most at the first block it had not indexed yet -/
def C14_restart_full : Prop := ∀ (lastIndexed : Option Nat) (firstUnindexed latest : Nat),
  (∀ l, lastIndexed = some l → l < firstUnindexed) → firstUnindexed ≤ latest →
    resumeAfter lastIndexed latest < firstUnindexed

/-- **C14 fails as stated (F12).** With an empty index (service killed before its first batch write, or only
blocks without Ethereum transactions so far) the restart jumps to the node's latest height: blocks committed
in between are never indexed. -/
theorem C14_restart_skips_fails : ¬ C14_restart_full :=
  fun h => absurd (h none 11 12 (fun _ hl => nomatch hl) (by decide)) (by decide)

theorem C14_restart_partial (l firstUnindexed latest : Nat) (h : l < firstUnindexed) :
    resumeAfter (some l) latest < firstUnindexed := h

/-! non-vacuity -/
def okTx (hash : Nat) : TxRec := ⟨hash, true, true, true, true, true, false⟩
def rejTx (hash : Nat) : TxRec := ⟨hash, true, true, false, false, false, false⟩   -- rejected by the ante handler
def cosTx (hash : Nat) : TxRec := ⟨hash, true, false, true, false, false, false⟩
example : getByHash (indexBlock Db.empty 7 [okTx 1, rejTx 2, cosTx 3, okTx 4]) 4 = some ⟨7, 3, 1, false⟩ := by decide
example : getByBlockAndIndex (indexBlock Db.empty 7 [okTx 1, rejTx 2, cosTx 3, okTx 4]) 7 1 = some ⟨7, 3, 1, false⟩ := by decide
example : getByHash (indexBlock Db.empty 7 [okTx 1, rejTx 2]) 2 = none := by decide

end Evermint.Indexer
