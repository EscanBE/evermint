import EvermintModel.Model.Query
import EvermintModel.Proofs.CDb
/-!
# C08 — simulation and query paths are side-effect free and predict execution
* `C08_estimate` — a returned estimate was observed executable, for **every** `executable` function
  (no monotonicity assumption).
* `C08_no_commit_no_write` — whatever the simulated code does through the StateDB (any writes by the
  interpreter or by precompiles into any module, any nesting of snapshots and reverts), the context the
  StateDB was created on is never written unless `CommitMultiStore` is called: with `commit = false` the
  caller's world is untouched.  (The query / check-tx / simulate paths additionally run on a branched
  context that is dropped — tied by E-query, which hashes every store before and after.)
-/
namespace Evermint.Query

theorem binSearch_lt {exec : Exec} {lo hi : Nat} (h : lo + 1 < hi) :
    binSearch exec lo hi = match exec ((hi + lo) / 2) with
      | none => none
      | some true => binSearch exec ((hi + lo) / 2) hi
      | some false => binSearch exec lo ((hi + lo) / 2) := by
  rw [binSearch, dif_pos h]; rfl

theorem binSearch_spec (exec : Exec) : ∀ (lo hi g : Nat), binSearch exec lo hi = some g →
    (g = hi ∨ exec g = some false) ∧ (lo < hi → lo < g) ∧ g ≤ hi := by
  intro lo hi g hg
  induction lo, hi using binSearch.induct exec with
  | case1 lo hi hlt mid he => rw [binSearch_lt hlt, he] at hg; cases hg   -- consensus error at the probe
  | case2 lo hi hlt mid he ih =>
    -- the probe failed: the search goes on above it
    rw [binSearch_lt hlt, he] at hg
    obtain ⟨a1, a2, a3⟩ := ih hg
    exact ⟨a1, fun _ => by have := a2 (by omega); omega, a3⟩
  | case3 lo hi hlt mid he ih =>
    -- the probe succeeded: the search goes on below it; if it returns the probe itself, that one has been run
    rw [binSearch_lt hlt, he] at hg
    obtain ⟨a1, a2, a3⟩ := ih hg
    exact ⟨Or.inr (a1.elim (fun e => e ▸ he) id), fun _ => a2 (by omega), by omega⟩
  | case4 lo hi hlt =>
    rw [binSearch, dif_neg hlt] at hg; cases hg
    exact ⟨Or.inl rfl, id, Nat.le_refl _⟩

theorem estimate_gas {exec : Exec} {lo cap g : Nat} (h : estimate exec lo cap = .gas g) :
    binSearch exec lo cap = some g ∧ (g = cap → exec g = some false) := by
  unfold estimate at h
  split at h
  · cases h
  · rename_i x hb
    split at h
    · split at h
      · rename_i he; cases h; exact ⟨hb, fun _ => he⟩
      · cases h
    · rename_i hx; cases h; exact ⟨hb, fun e => absurd e hx⟩

/-- **C08 (estimate).** If `EstimateGas` returns a gas value, running the message with exactly that gas
limit on the same state does not fail (no out-of-gas, no revert) — whatever the shape of `executable`. -/
theorem C08_estimate (exec : Exec) (lo cap g : Nat) (h : estimate exec lo cap = .gas g) : exec g = some false :=
  let ⟨hb, hcap⟩ := estimate_gas h
  (binSearch_spec exec lo cap g hb).1.elim hcap id

theorem C08_estimate_range (exec : Exec) (lo cap g : Nat) (hlo : lo < cap) (h : estimate exec lo cap = .gas g) : lo < g ∧ g ≤ cap :=
  let ⟨_, h2, h3⟩ := binSearch_spec exec lo cap g (estimate_gas h).1
  ⟨h2 hlo, h3⟩

/-! non-vacuity: a non-monotone `executable` (succeeds in [30,50], fails in (50,200), succeeds from 200) -/
def gappy : Exec := fun g => some (!(decide (30 ≤ g ∧ g ≤ 50) || decide (200 ≤ g)))
example : estimate gappy 20 400 = .gas 200 ∧ gappy 200 = some false ∧ gappy 100 = some true := by
  decide +kernel

/-- **C08 (estimate, whole wrapper).** Whatever gas the caller offers, whatever the block gas limit and the gas cap
of the request: an estimate that is returned is a gas limit the call succeeds with; that it does not exceed a
non-zero cap is `C08_estimateGas_capped`. -/
theorem C08_estimateGas (exec : Exec) (argsGas : Option Nat) (maxGas : Int) (reqCap g : Nat)
    (h : estimateGas exec argsGas maxGas reqCap = .gas g) : exec g = some false :=
  C08_estimate exec 20999 _ g h

theorem searchBound_le_cap (argsGas : Option Nat) (maxGas : Int) (reqCap : Nat) (hc : reqCap ≠ 0) : searchBound argsGas maxGas reqCap ≤ reqCap := by
  unfold searchBound
  split
  · exact Nat.le_refl _
  · rename_i h; exact Nat.le_of_not_gt fun hgt => h ⟨hc, hgt⟩

theorem C08_estimateGas_capped (exec : Exec) (argsGas : Option Nat) (maxGas : Int) (reqCap g : Nat) (hc : reqCap ≠ 0)
    (hlo : 20999 < searchBound argsGas maxGas reqCap) (h : estimateGas exec argsGas maxGas reqCap = .gas g) : g ≤ reqCap :=
  Nat.le_trans (C08_estimate_range exec 20999 _ g hlo h).2 (searchBound_le_cap argsGas maxGas reqCap hc)

/-- the order matters: with the cap remembered before the recap, a call that needs more than the cap gets the cap
back as its "estimate" (caller gas 10 000 000, cap 50 000, the call needs 198 220) -/
theorem C08_stale_cap_returns_unexecutable :
    estimateGasStale (fun g => some (decide (g < 198220))) (some 10000000) (-1) 50000 = .gas 50000 ∧
    (fun g => some (decide (g < 198220))) 50000 = some true ∧
    estimateGas (fun g => some (decide (g < 198220))) (some 10000000) (-1) 50000 = .error := by
  decide +kernel

end Evermint.Query

namespace Evermint.CDbG
variable {W J : Type}

theorem step_orig (s s' : CDb W J) (o : Op W J) (h : s.step o = some s') : s'.orig = s.orig := by
  cases o with
  | upd f => cases h; rfl
  | snapshot => cases h; rfl
  | revert id => obtain ⟨_, _, _, _, _, _, rfl⟩ := revert_some h; rfl

theorem run_orig (ops : List (Op W J)) (s s' : CDb W J) (h : s.run ops = some s') : s'.orig = s.orig := by
  induction ops generalizing s with
  | nil => cases h; rfl
  | cons o os ih =>
    obtain ⟨s1, hs, h⟩ := run_cons h
    exact (ih s1 h).trans (step_orig s s1 o hs)

/-- **C08 (no commit, no write).** Any sequence of StateDB operations — writes by the interpreter and by
precompiles into any module, arbitrarily nested snapshots and reverts — leaves the context the StateDB was
created on exactly as it was.  Only `CommitMultiStore` (commit = true) ever writes it. -/
theorem C08_no_commit_no_write (w : W) (j0 : J) (ops : List (Op W J)) (s' : CDb W J)
    (h : (new w j0).run ops = some s') : s'.orig = w :=
  run_orig ops (new w j0) s' h

end Evermint.CDbG
