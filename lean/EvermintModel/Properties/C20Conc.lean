import EvermintModel.Model.EventSys
/-!
# C20 (concurrency part) — no interleaving of subscribe / unsubscribe / event delivery crashes the node or
drops a live subscription

For every schedule (every list of attempted steps, of any length) of the protocol as the tree has it now:
the consumer never sends on a closed channel, and no live subscriber loses its channel.  For the protocol as
it was, both failures are reachable: the witnesses are the schedules E-conc forces on the real goroutines.
-/
namespace Evermint.EventSys

/-- invariant of the repaired protocol (`c < s.nextChan`: channel `c` has been handed out) -/
structure Inv (s : State) : Prop where
  crashed : s.crashed = false
  dropped : s.dropped = false
  joined : s.joined = 0
  topic : ∀ c, s.topic = some c → ¬ c ∈ s.closed ∧ c < s.nextChan
  held : ∀ c, s.holding = some c → s.topic = some c
  closed : ∀ c, c ∈ s.closed → c < s.nextChan

theorem inv_init : Inv {} := ⟨rfl, rfl, rfl, nofun, nofun, nofun⟩

theorem inv_step (s s' : State) (o : Op) (hi : Inv s) (h : step fixed s o = some s') : Inv s' := by
  cases o with
  | install =>
    simp only [step] at h
    split at h; · cases h
    split at h <;> cases h
    · exact { hi with }
    · rename_i htp
      -- the fresh channel `nextChan` is open: every closed channel is below it
      exact { hi with
        topic := fun c hc => by cases hc; exact ⟨fun hm => Nat.lt_irrefl _ (hi.closed _ hm), Nat.lt_succ_self _⟩
        held := fun c hc => by cases htp ▸ hi.held c hc
        closed := fun c hm => Nat.lt_succ_of_lt (hi.closed c hm) }
  | uninstall =>
    simp only [step] at h
    split at h; · cases h
    rename_i hw
    -- the write lock is free: under `fixed` the consumer holds nothing
    have hnohold : s.holding = none := by simp [writeLockFree, fixed, hi.crashed] at hw; exact hw.1
    split at h
    · split at h <;> cases h
      · rename_i c htp
        exact { hi with
          dropped := by simp [hi.dropped, hi.joined]
          topic := nofun
          held := fun c' hc' => by rw [hnohold] at hc'; cases hc'
          closed := fun c' hm => by
            rcases List.mem_cons.1 hm with rfl | hm
            · exact (hi.topic _ htp).2
            · exact hi.closed _ hm }
      · exact { hi with }
    · cases h; exact { hi with }
  | join =>
    simp only [step, show fixed.indexJoined = true from rfl, if_true] at h
    split at h; · cases h
    split at h <;> cases h
    exact { hi with }
  | leave => simp [step, hi.crashed, hi.joined] at h
  | consumeRead =>
    simp only [step] at h
    split at h; · cases h
    split at h <;> cases h
    · rename_i c htp
      exact { hi with held := fun c' hc' => by cases hc'; exact htp }
    · exact hi
  | consumeSend =>
    simp only [step] at h
    split at h
    · rename_i c hho
      -- the held channel is the topic's, hence open: no send on a closed channel
      have hopen : s.closed.contains c = false := by simpa using (hi.topic c (hi.held c hho)).1
      simp only [hopen, Bool.false_eq_true, if_false] at h
      split at h <;> cases h
      exact { hi with held := nofun }
    · cases h
  | consumeTimeout =>
    simp only [step] at h
    split at h
    · split at h <;> cases h
      exact { hi with held := nofun }
    · cases h

theorem inv_run (ops : List Op) (s : State) (hi : Inv s) : Inv (run fixed s ops) := by
  induction ops generalizing s with
  | nil => exact hi
  | cons o os ih =>
    simp only [run]
    cases h : step fixed s o with
    | some s' => exact ih s' (inv_step s s' o hi h)
    | none => exact ih s hi

/-- **C20 (event system).** Whatever subscribers, unsubscribers and event deliveries do, and in whatever
order, the consumer goroutine never sends on a closed channel and no live subscription loses its channel. -/
theorem C20_no_send_on_closed (ops : List Op) : (run fixed {} ops).crashed = false ∧ (run fixed {} ops).dropped = false :=
  ⟨(inv_run ops {} inv_init).crashed, (inv_run ops {} inv_init).dropped⟩

/-- the protocol as it was: an event arrives while the last subscriber unsubscribes — the node process dies -/
theorem C20_original_crashes : (run original {} [.install, .consumeRead, .uninstall, .consumeSend]).crashed = true := by decide

/-- the protocol as it was: the second subscriber of a query is cut off when the first one unsubscribes -/
theorem C20_original_drops : (run original {} [.install, .join, .uninstall]).dropped = true := by decide

/-- each repair is needed on its own -/
theorem C20_lock_needed : (run { fixed with lockAcrossSend := false } {} [.install, .consumeRead, .uninstall, .consumeSend]).crashed = true := by decide
theorem C20_index_needed : (run { fixed with indexJoined := false } {} [.install, .join, .uninstall]).dropped = true := by decide

/-- non-vacuity: under the repaired protocol the dangerous schedules do run — the uninstall simply waits -/
example : (run fixed {} [.install, .consumeRead, .uninstall, .consumeSend, .uninstall]).topic = none ∧
          (run fixed {} [.install, .consumeRead, .uninstall, .consumeSend, .uninstall]).crashed = false := by decide

end Evermint.EventSys
