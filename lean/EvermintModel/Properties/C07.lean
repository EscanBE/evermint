import EvermintModel.Model.Ante
import EvermintModel.Base.Guard
/-!
# C07 — dual-lane isolation

The acceptance rule is written here from the property text (`ethShapeOK`, `cosmosOK`),
independently of the transcription in `Model/Ante.lean`, and the composed handler is proved to
accept nothing outside it, in every mode and at every nesting depth.
-/
namespace Evermint.Ante

/-- "accepted only if that is its sole message and it carries no Cosmos signatures or signer infos,
no fee payer or granter, no memo, no timeout height and no foreign extension option, and its declared
fee and gas limit equal those of the embedded Ethereum transaction" -/
def ethShapeOK (t : Tx) : Prop :=
  t.msgs = [Msg.eth] ∧ t.sigs = 0 ∧ t.signerInfos = 0 ∧ t.payer = false ∧ t.granter = false ∧
  t.memo = false ∧ t.timeout = 0 ∧ t.nonCrit = 0 ∧ (t.extOpts = [] ∨ t.extOpts = [0]) ∧
  t.feeCoins = coinsOfFee t.eth.fee ∧ t.gasLimit = t.eth.gas

/-- the part of the shape that is re-established in re-check mode (validate-basic is skipped there;
CometBFT only re-checks bytes that passed check) -/
def ethShapeRecheck (t : Tx) : Prop :=
  t.msgs = [Msg.eth] ∧ t.memo = false ∧ t.timeout = 0 ∧ t.nonCrit = 0 ∧ (t.extOpts = [] ∨ t.extOpts = [0])

mutual
/-- every message nested (at any depth ≥ 1) below a message through exec nesting -/
def Msg.nested : Msg → List Msg
  | .exec ms => ms ++ nestedL ms
  | _ => []
def nestedL : List Msg → List Msg
  | [] => []
  | m :: ms => m.nested ++ nestedL ms
end

mutual
def Msg.depth : Msg → Nat
  | .exec ms => 1 + depthL ms
  | _ => 0
def depthL : List Msg → Nat
  | [] => 0
  | m :: ms => max m.depth (depthL ms)
end

/-- a message that may never run through the Cosmos lane below an exec: an Ethereum message or one of
the configured vesting-creation messages (or anything else carrying a disabled url) -/
def Msg.forbiddenNested (m : Msg) : Prop :=
  match m with
  | .exec _ => False
  | .grant _ => False
  | m => isDisabledUrl m.url = true

def Msg.badGrant : Msg → Prop
  | .grant u => isDisabledUrl u = true
  | _ => False

/-- "Ethereum messages (and the configured vesting-creation messages) can never be executed through
the Cosmos lane - neither listed beside other messages nor nested at any depth inside
authorisation-exec messages - and grants for them are refused" (+ the depth cap) -/
def cosmosOK (t : Tx) : Prop :=
  (∀ m ∈ t.msgs, m.isEth = false) ∧
  (∀ m ∈ nestedL t.msgs, ¬ m.forbiddenNested) ∧
  (∀ m ∈ t.msgs ++ nestedL t.msgs, ¬ m.badGrant) ∧
  1 + depthL t.msgs ≤ maxNestedLevels

/-- what an accepting run of `checkDisabledMsgs(msgs, lvl)` establishes -/
def ScreenOK (ms : List Msg) (lvl : Nat) : Prop :=
  lvl + depthL ms ≤ maxNestedLevels ∧
  (∀ m ∈ nestedL ms, ¬ m.forbiddenNested) ∧
  (lvl > 1 → ∀ m ∈ ms, ¬ m.forbiddenNested) ∧
  (∀ m ∈ ms ++ nestedL ms, ¬ m.badGrant)

theorem screen_nil {lvl : Nat} (h : lvl ≤ maxNestedLevels) : ScreenOK [] lvl :=
  ⟨h, nofun, fun _ => nofun, nofun⟩

/-- every clause of `ScreenOK` quantifies over a list that, for `m :: ms`, is the one for `[m]` followed by the one for `ms` -/
theorem screen_cons {m : Msg} {ms : List Msg} {lvl : Nat} (h1 : ScreenOK [m] lvl) (h2 : ScreenOK ms lvl) :
    ScreenOK (m :: ms) lvl := by
  simp only [ScreenOK, depthL, nestedL, List.append_nil, List.cons_append, List.nil_append, List.mem_cons, List.mem_append,
    List.not_mem_nil, or_false, or_imp, forall_and] at h1 h2 ⊢
  obtain ⟨a1, a2, a3, a4, a5⟩ := h1
  obtain ⟨b1, b2, b3, b4, b5⟩ := h2
  exact ⟨by omega, ⟨a2, b2⟩, ⟨a3, b3⟩, a4, b4, a5, b5⟩

theorem screen_flat {m : Msg} {lvl : Nat} (hn : m.nested = []) (hd : m.depth = 0) (hl : lvl ≤ maxNestedLevels)
    (hf : lvl > 1 → ¬ m.forbiddenNested) (hg : ¬ m.badGrant) : ScreenOK [m] lvl := by
  simpa [ScreenOK, depthL, nestedL, hn, hd, hg] using ⟨hl, hf⟩

/-- the messages directly inside an exec sit at a level above 1, so for them the third clause of the inner screen applies -/
theorem screen_exec {inner : List Msg} {lvl : Nat} (hl : 1 ≤ lvl) (h : ScreenOK inner (lvl + 1)) :
    ScreenOK [.exec inner] lvl := by
  obtain ⟨a1, a2, a3, a4⟩ := h
  refine ⟨?_, ?_, ?_, ?_⟩
  · simp only [depthL, Msg.depth]; omega
  · simpa [nestedL, Msg.nested, or_imp, forall_and] using ⟨a3 (by omega), a2⟩
  · simp [Msg.forbiddenNested]
  · simpa [nestedL, Msg.nested, Msg.badGrant] using a4

theorem checkMsgs_eq (ms : List Msg) (lvl : Nat) :
    checkMsgs ms lvl = if lvl > maxNestedLevels then some "992c-level" else checkTail ms lvl := by
  cases ms <;> rfl

mutual
theorem checkTail_sound : ∀ (ms : List Msg) (lvl : Nat), 1 ≤ lvl → lvl ≤ maxNestedLevels → checkTail ms lvl = none → ScreenOK ms lvl
  | [], _, _, hl, _ => screen_nil hl
  | m :: ms, lvl, h1, hl, h => by
    unfold checkTail at h
    split at h
    · cases h
    · rename_i hm
      exact screen_cons (checkMsg_sound m lvl h1 hl hm) (checkTail_sound ms lvl h1 hl h)
theorem checkMsg_sound : ∀ (m : Msg) (lvl : Nat), 1 ≤ lvl → lvl ≤ maxNestedLevels → checkMsg m lvl = none → ScreenOK [m] lvl
  | .exec inner, lvl, h1, _, h => by
    rw [checkMsg, checkMsgs_eq, ite_some_eq_none] at h
    exact screen_exec h1 (checkTail_sound inner (lvl + 1) (by omega) (by omega) h.2)
  | .grant u, lvl, _, hl, h =>
    screen_flat rfl rfl hl (fun _ => id) (by simpa [checkMsg, Msg.badGrant] using h)
  | .eth, lvl, _, hl, h | .vesting _ _, lvl, _, hl, h | .other _, lvl, _, hl, h =>
    screen_flat rfl rfl hl (fun hgt => by simpa [checkMsg, hgt, Msg.forbiddenNested, Msg.url] using h) id
end

theorem checkMsgs_sound (ms : List Msg) (lvl : Nat) (h1 : 1 ≤ lvl) (h : checkMsgs ms lvl = none) : ScreenOK ms lvl := by
  rw [checkMsgs_eq, ite_some_eq_none] at h
  exact checkTail_sound ms lvl h1 (by omega) h.2

theorem hasSingleEth_iff (t : Tx) : hasSingleEth t = true ↔ t.msgs = [Msg.eth] := by
  unfold hasSingleEth
  split
  · rename_i m hm; cases m <;> simp [hm, Msg.isEth]
  · rename_i hne; simpa using fun h => hne .eth h

theorem isEthereumTx_shape {t : Tx} (h : isEthereumTx t = true) :
    t.msgs = [Msg.eth] ∧ t.nonCrit = 0 ∧ (t.extOpts = [] ∨ t.extOpts = [0]) := by
  unfold isEthereumTx at h
  simp only [Bool.and_eq_true, Bool.or_eq_true, beq_iff_eq] at h
  exact ⟨(hasSingleEth_iff t).1 h.1.1, h.1.2, h.2⟩

theorem run_none {p : Params} {t : Tx} {mode : Mode} {late : Option String} {hp : Nat → Bool}
    (hacc : run p t mode late hp = none) :
    (hasSingleEth t = true → ethLane p t mode = none) ∧ (hasSingleEth t = false → cosmosLane t mode late hp = none) := by
  unfold run at hacc
  rw [ite_some_eq_none] at hacc
  constructor <;> intro hs <;> rw [hs] at hacc
  · cases he : ethLane p t mode
    · rfl
    · simp [he] at hacc
  · exact hacc.2

/-- the clauses of `03_validate_basic` are skipped in re-check -/
theorem ethLane_none {p : Params} {t : Tx} {mode : Mode} (h : ethLane p t mode = none) :
    isEthereumTx t = true ∧ t.timeout = 0 ∧ t.memo = false ∧
    (mode ≠ .recheck → t.signerInfos = 0 ∧ t.payer = false ∧ t.granter = false ∧ t.sigs = 0 ∧
      t.feeCoins = coinsOfFee t.eth.fee ∧ t.gasLimit = t.eth.gas) := by
  unfold ethLane at h
  simp only [ite_some_eq_none] at h
  obtain ⟨h02, h⟩ := h
  split at h
  · cases h
  rename_i h03
  simp only [ite_some_eq_none] at h
  obtain ⟨_, _, hto, hmemo, _⟩ := h
  refine ⟨by simpa using h02, by simpa using hto, by simpa using hmemo, fun hmode => ?_⟩
  simp only [if_neg hmode, ite_some_eq_none] at h03
  -- the thirteen guards of `03_validate_basic`, in the order of the chain
  obtain ⟨_, _, hsi, hpg, hsg, _, _, _, _, _, hfee, hgas, _⟩ := h03
  simp only [Bool.or_eq_true, not_or, Bool.not_eq_true] at hpg
  exact ⟨by omega, hpg.1, hpg.2, by omega, by simpa using hfee, by simpa using hgas⟩

theorem cosmosLane_none {t : Tx} {mode : Mode} {sdk : Option String} {hp : Nat → Bool}
    (h : cosmosLane t mode sdk hp = none) :
    sdk = none ∧ t.msgs.any Msg.isEth = false ∧ checkMsgs t.msgs 1 = none ∧ vestingGate hp t.msgs = none := by
  unfold cosmosLane at h
  simp only [ite_some_eq_none] at h
  obtain ⟨_, _, h⟩ := h
  split at h
  · cases h
  rw [ite_some_eq_none] at h
  obtain ⟨hne, h⟩ := h
  split at h
  · cases h
  · exact ⟨rfl, by simpa using hne, ‹_›, h⟩

/-- **C07 (Ethereum lane).** In check, simulate and deliver mode, a transaction containing a single
Ethereum message that the composed handler accepts has exactly the shape the property demands. -/
theorem C07_eth_lane (p : Params) (t : Tx) (mode : Mode) (late : Option String) (hp : Nat → Bool)
    (hmode : mode ≠ .recheck) (hsingle : hasSingleEth t = true) (hacc : run p t mode late hp = none) :
    ethShapeOK t := by
  obtain ⟨h0, hto, hmemo, hb⟩ := ethLane_none ((run_none hacc).1 hsingle)
  obtain ⟨hsi, hpay, hgr, hsig, hfee, hgas⟩ := hb hmode
  obtain ⟨s1, s2, s3⟩ := isEthereumTx_shape h0
  exact ⟨s1, hsig, hsi, hpay, hgr, hmemo, hto, s2, s3, hfee, hgas⟩

/-- **C07 (re-check).** Re-check skips validate-basic; the lane predicate, extension options, memo and
timeout rules are still enforced there. -/
theorem C07_recheck (p : Params) (t : Tx) (late : Option String) (hp : Nat → Bool)
    (hsingle : hasSingleEth t = true) (hacc : run p t .recheck late hp = none) :
    ethShapeRecheck t := by
  obtain ⟨h0, hto, hmemo, _⟩ := ethLane_none ((run_none hacc).1 hsingle)
  obtain ⟨s1, s2, s3⟩ := isEthereumTx_shape h0
  exact ⟨s1, hmemo, hto, s2, s3⟩

/-- **C07 (Cosmos lane).** Whatever the mode and however deep the nesting, a transaction that is not a
single Ethereum message and is accepted carries no Ethereum message at top level, nothing forbidden
below any exec, no grant for a forbidden url, and respects the depth cap. -/
theorem C07_cosmos_lane (p : Params) (t : Tx) (mode : Mode) (late : Option String) (hp : Nat → Bool)
    (hsingle : hasSingleEth t = false) (hacc : run p t mode late hp = none) :
    cosmosOK t := by
  obtain ⟨_, hne, hc, _⟩ := cosmosLane_none ((run_none hacc).2 hsingle)
  obtain ⟨a1, a2, _, a4⟩ := checkMsgs_sound t.msgs 1 (Nat.le_refl 1) hc
  exact ⟨by simpa using hne, a2, a4, a1⟩

/-- **C07 (exactly one lane).** Every decorator consults the same predicate: past the message-level
basic validation, the handler's verdict is the Ethereum lane's for a single Ethereum message and the
Cosmos lane's otherwise — never a mixture. -/
theorem C07_exclusive (p : Params) (t : Tx) (mode : Mode) (late : Option String) (hp : Nat → Bool)
    (hb : (t.msgs.any Msg.isEth && !t.eth.msgBasicOK) = false) :
    (hasSingleEth t = true ∧ run p t mode late hp = (match ethLane p t mode with | some e => some e | none => late.map ("late:" ++ ·))) ∨
    (hasSingleEth t = false ∧ run p t mode late hp = cosmosLane t mode late hp) := by
  unfold run
  rw [hb]
  cases hasSingleEth t
  · exact .inr ⟨rfl, rfl⟩
  · exact .inl ⟨rfl, rfl⟩

/-- the Ethereum message and the three vesting-creation kinds are on the disabled list -/
theorem forbiddenNested_of_isEth : ∀ {m : Msg}, m.isEth = true → m.forbiddenNested
  | .eth, _ => (rfl : isDisabledUrl 0 = true)

theorem forbiddenNested_vesting : ∀ {k : Nat} (to : Nat), k < 3 → (Msg.vesting k to).forbiddenNested
  | 0, _, _ | 1, _, _ | 2, _, _ => by show isDisabledUrl _ = true; rfl

/-- **C07 (handler unreachable from the Cosmos lane).** An accepted transaction that contains an
Ethereum message anywhere — top level or nested at any depth — is exactly a single-Ethereum-message
transaction (so the message runs through the Ethereum lane's checks). -/
theorem C07_handler_unreachable (p : Params) (t : Tx) (mode : Mode) (late : Option String) (hp : Nat → Bool)
    (hacc : run p t mode late hp = none)
    (heth : ∃ m ∈ t.msgs ++ nestedL t.msgs, m.isEth = true) : t.msgs = [Msg.eth] := by
  cases hs : hasSingleEth t with
  | true => exact (hasSingleEth_iff t).1 hs
  | false =>
    obtain ⟨c1, c2, _, _⟩ := C07_cosmos_lane p t mode late hp hs hacc
    obtain ⟨m, hm, hme⟩ := heth
    rcases List.mem_append.1 hm with hm | hm
    · rw [c1 m hm] at hme; cases hme
    · exact absurd (forbiddenNested_of_isEth hme) (c2 m hm)

theorem vestingGate_sound (hp : Nat → Bool) (ms : List Msg) (h : vestingGate hp ms = none)
    (k to : Nat) (hk : k < 3) (hm : Msg.vesting k to ∈ ms) : hp to = true := by
  induction ms using vestingGate.induct hp with
  | case1 => cases hm
  | case2 k' to' ms hc => rw [vestingGate, if_pos hc] at h; cases h
  | case3 k' to' ms hc ih =>
    rw [vestingGate, if_neg hc] at h
    rcases List.mem_cons.1 hm with heq | hm
    · cases heq; simpa [hk] using hc
    · exact ih h hm
  | case4 m ms hne ih =>
    rw [vestingGate.eq_3 hp m ms hne] at h
    rcases List.mem_cons.1 hm with heq | hm
    · exact absurd heq.symm (hne k to)
    · exact ih h hm

/-- **C16 gate (shared).** An accepted Cosmos-lane transaction creates vesting accounts only at top
level and only for addresses with a stored proof. -/
theorem C16_gate (p : Params) (t : Tx) (mode : Mode) (late : Option String) (hp : Nat → Bool)
    (hacc : run p t mode late hp = none) :
    (∀ k to, k < 3 → Msg.vesting k to ∈ t.msgs → hp to = true) ∧
    (∀ k to, k < 3 → Msg.vesting k to ∉ nestedL t.msgs) := by
  cases hs : hasSingleEth t with
  | true => rw [(hasSingleEth_iff t).1 hs]; exact ⟨by simp, by simp [nestedL, Msg.nested]⟩
  | false =>
    exact ⟨vestingGate_sound hp t.msgs (cosmosLane_none ((run_none hacc).2 hs)).2.2.2,
      fun k to hk hmem => (C07_cosmos_lane p t mode late hp hs hacc).2.1 _ hmem (forbiddenNested_vesting to hk)⟩

/-! ## non-vacuity: concrete accepted and rejected shapes -/

def sampleEth : Tx :=
  { msgs := [.eth], eth := { msgBasicOK := true, asMessageOK := true, create := false, prot := true, fee := 21000, gas := 21000, fromEmpty := false, senderHasCode := false },
    extOpts := [0], nonCrit := 0, sigs := 0, signerInfos := 0, payer := false, granter := false, memo := false, timeout := 0,
    feeCoins := [(0, 21000)], gasLimit := 21000, txBasicOK := true }

example : run {} sampleEth .deliver none (fun _ => false) = none := rfl
example : run {} { sampleEth with memo := true } .deliver none (fun _ => false) = some "05e-memo" := rfl
example : run {} { sampleEth with sigs := 1 } .recheck none (fun _ => false) = none := rfl  -- why C07_recheck is weaker
example : run {} { sampleEth with extOpts := [], msgs := [.exec [.exec [.other 9]]] } .deliver none (fun _ => false) = none := rfl
example : run {} { sampleEth with extOpts := [], msgs := [.exec [.exec [.exec [.other 9]]]] } .deliver none (fun _ => false) = some "992c-level" := rfl
example : run {} { sampleEth with extOpts := [], msgs := [.other 9, .exec [.exec [.eth]]] } .check none (fun _ => false) = some "992c-nested" := rfl
example : run {} { sampleEth with extOpts := [], msgs := [.vesting 1 7] } .deliver none (fun a => a == 7) = none := rfl
example : run {} { sampleEth with extOpts := [], msgs := [.vesting 1 7] } .deliver none (fun _ => false) = some "993c" := rfl
example : run {} { sampleEth with extOpts := [], msgs := [.grant 2] } .simulate none (fun _ => true) = some "992c-grant" := rfl
example : run {} { sampleEth with msgs := [.other 9] } .deliver none (fun _ => false) = some "02-extopt" := rfl

end Evermint.Ante
