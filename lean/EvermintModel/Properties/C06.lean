import EvermintModel.Properties.C05
/-!
# C06 — only sender-authorised transactions execute, each exactly once

Signature validity is symbolic (`SigClass`, supplied per transaction by the harness which runs the
real recovery): the theorems decide *what the chain does with* a valid / invalid signature.
Histories are arbitrary lists of transactions interleaved with block boundaries.
-/
namespace Evermint.Block

/-- a transaction that changed anything was replay-protected for this chain, signed by the declared
sender, and carried exactly the sender's current sequence -/
theorem C06_authorised (s : BState) (t : EthTx) (x : Exec)
    (hadm : admitted (stepEth s t x).2.cls = true) :
    t.sig = .ok ∧ t.nonce = s.seq.get t.sender := by
  obtain ⟨hsig, -, -, -, -, hnonce⟩ := anteReject_eq_none.mp (stepEth_of_admitted hadm).1
  exact ⟨hsig, hnonce⟩

/-- every admitted transaction advances the sender's sequence by exactly one — whether it then
succeeds, reverts, fails with a consensus error, panics, or overflows the block gas — and nobody else's -/
theorem C06_seq_plus_one (s : BState) (t : EthTx) (x : Exec)
    (hadm : admitted (stepEth s t x).2.cls = true) :
    (stepEth s t x).1.seq.get t.sender = s.seq.get t.sender + 1 ∧
    ∀ a, a ≠ t.sender → (stepEth s t x).1.seq.get a = s.seq.get a := by
  have h : (stepEth s t x).1.seq = (anteState s t).seq := by
    obtain ⟨-, ⟨c, gu, -, h⟩ | h⟩ := stepEth_of_admitted hadm <;> rw [h] <;> rfl
  rw [h]
  exact ⟨FMap.get_set_eq _ _ _, fun a ha => FMap.get_set_ne _ _ _ _ ha⟩

/-- a rejected / dropped transaction leaves every sequence untouched -/
theorem C06_seq_unchanged (s : BState) (t : EthTx) (x : Exec)
    (hadm : admitted (stepEth s t x).2.cls = false) : (stepEth s t x).1.seq = s.seq := by
  obtain ⟨c, gw, gu, h⟩ := stepEth_of_not_admitted hadm
  rw [h]

/-- sequences advance by exactly the number of admitted transactions of that sender -/
theorem C06_seq_counts (is : List Item) (s : BState) (a : Nat) :
    (runItems s is).1.seq.get a =
      s.seq.get a + ((runItems s is).2.filter (fun p => p.1.sender == a && admitted p.2.cls)).length := by
  induction is generalizing s with
  | nil => rfl
  | cons i is ih =>
    cases i with
    | newBlock b m r => exact ih _
    | tx t x =>
      simp only [runItems, stepItem, List.filter_cons]
      rw [ih]
      cases hadm : admitted (stepEth s t x).2.cls with
      | false => rw [C06_seq_unchanged s t x hadm]; simp
      | true =>
        have h := C06_seq_plus_one s t x hadm
        by_cases ha : a = t.sender
        · subst ha; rw [h.1]; simp; omega
        · rw [h.2 a ha]; simp [Ne.symm ha]

/-- sequences never move backwards over any history -/
theorem C06_seq_monotone (is : List Item) (s : BState) (a : Nat) :
    s.seq.get a ≤ (runItems s is).1.seq.get a := by
  rw [C06_seq_counts]; exact Nat.le_add_right _ _

/-- **No replay.**  Once a transaction with `(sender, nonce)` has been admitted, no transaction
with the same `(sender, nonce)` — in particular the same signed bytes — is ever admitted again,
whatever happens in between (any transactions, any number of blocks). -/
theorem C06_no_replay (s : BState) (t : EthTx) (x : Exec) (between : List Item) (t' : EthTx) (x' : Exec)
    (hadm : admitted (stepEth s t x).2.cls = true)
    (hsame : t'.sender = t.sender ∧ t'.nonce = t.nonce) :
    admitted (stepEth (runItems (stepEth s t x).1 between).1 t' x').2.cls = false := by
  cases h : admitted (stepEth (runItems (stepEth s t x).1 between).1 t' x').2.cls with
  | false => rfl
  | true =>
    -- admitted twice, `t.nonce` would be the sender's sequence both before `t` and after it, but it has grown
    exfalso
    have h1 := (C06_authorised _ t' x' h).2
    have h2 := (C06_authorised s t x hadm).2
    have h3 := (C06_seq_plus_one s t x hadm).1
    have h4 := C06_seq_monotone between (stepEth s t x).1 t.sender
    rw [hsame.1, hsame.2] at h1
    omega

/-! ## Non-vacuity: the same bytes twice in one block — second is refused with "invalid sequence" -/
example : (stepEth (stepEth exS exT exX).1 exT exX).2.cls = .anteRejected "sdk/3" := by decide +kernel

end Evermint.Block
