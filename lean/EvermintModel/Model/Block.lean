import EvermintModel.Base.FMap
import EvermintModel.Model.FeeMarket
/-!
# Accounting model of one block of transactions (deliver mode)

Transcribes, for the accounting quantities only:
`BaseApp.runTx` (SDK 0.50.10: pre-ante block-gas check, ante cache / msg cache, panic recovery,
`consumeBlockGas`), the Ethereum-lane ante decorators of `/repo/app/antedl` (validate-basic,
fee checker + deduction, signature / nonce check, sequence increment, execution-context setup),
the message server `EthereumTx`, `ApplyTransaction`, `refundGas` (+ the fee-collector burn of the
refunded amount) and the transient per-block bookkeeping of `/repo/x/evm/keeper/keeper.go`.

The EVM interpreter is **not** modelled: its result enters as `Exec` (gas used, VM error?,
number of logs, whether the handler panicked, coins explicitly destroyed by the program).
Everything else — admission, outcome class, gas wanted/used, indices, cumulative gas, effective
price, every balance and supply delta, the next base fee — is computed here.
DESIGN.md appendix D.2 / D.3.
-/
namespace Evermint.Block
open Evermint

inductive SigClass where
  | ok          -- recovers, under this chain's latest signer, to the declared From
  | wrongChain  -- signed for another EIP-155 chain id
  | unprotected -- pre-EIP-155 (homestead) signature
  | fromMismatch -- valid signature of another key
deriving Repr, DecidableEq

structure EthTx where
  sender  : Nat
  ty      : Nat          -- 0 legacy, 1 access-list, 2 dynamic-fee
  gasLimit : Nat
  gasPrice : Nat
  feeCap  : Nat
  tip     : Nat
  value   : Nat
  nonce   : Nat
  create  : Bool
  intrinsic : Nat        -- core.IntrinsicGas of (data, access list, create) — supplied
  sig     : SigClass
  toWallet : Option Nat  -- tracked recipient, if any
  sdBurn  : Nat          -- coins the program explicitly destroys when it succeeds (scenario knowledge)
deriving Repr

/-- what the interpreter did (observed, not modelled) -/
structure Exec where
  vmErr   : Bool         -- receipt status 0
  gasBefore : Nat        -- gas used before the refund: gasLimit − gas left after the interpreter returned
  refundCounter : Nat    -- StateDB refund counter at the end of execution
  nLogs   : Nat
  panicked : Bool        -- a panic under the message handler (recovered by runTx)
  meterGas : Nat := 0    -- reading of the context's gas meter, only reported for txs refused before the ante handler or by a panic inside it
deriving Repr

/-- `params.RefundQuotientEIP3529` (London is always active) -/
def refundQuotient : Nat := 5

/-- `refundGas`: refund = min(gasUsed / 5, counter) -/
def Exec.refund (x : Exec) : Nat := min (x.gasBefore / refundQuotient) x.refundCounter

/-- gas used reported by the state transition (after refund) -/
def Exec.gasUsed (x : Exec) : Nat := x.gasBefore - x.refund

inductive Class where
  | dropped            -- block gas meter already exhausted: not even the ante handler ran
  | preBasic           -- refused by runTx's ValidateBasic of the messages, before the ante handler
  | anteRejected (code : String)
  | cerr               -- consensus error returned by the state transition (handler fails)
  | panic              -- panic under the handler
  | blockOog           -- executed, then the block gas meter overflowed: execution not committed
  | vmerr              -- committed with a VM error
  | ok
deriving Repr, DecidableEq

structure BState where
  bal      : FMap Nat        -- tracked wallets, EVM denom
  seq      : FMap Nat
  baseFee  : Nat
  maxGas   : Int             -- consensus MaxGas
  minRaw   : Nat             -- global min gas price mantissa (LegacyDec)
  blockGas : Nat := 0        -- consumed on the block gas meter
  txCount  : Nat := 0        -- transient tx counter (Ethereum txs that passed the ante handler)
  gasSlots : List Nat := []  -- transient per-tx gas, index = tx index
  logSlots : List Nat := []  -- transient per-tx log count

structure TxOut where
  cls     : Class
  gasWanted : Int
  gasUsed : Nat
  anteIdx : Option Nat       -- txIndex attribute of the ethereum_tx (ante) event
  rcptIdx : Option Nat       -- txIdx of the tx_receipt event
  logIdx  : Option Nat       -- logIdx of the tx_receipt event (present iff ≥ 1 log)
  rcptGas : Option Nat
  cumGas  : Option Nat
  status  : Option Nat
  effPrice : Option Nat
  dSender : Int
  dCollector : Int
  dSupply : Int
  contract : Option Bool     -- created-contract address reported
deriving Repr

def effPrice (t : EthTx) (base : Nat) : Nat :=
  if t.ty = 2 then min (t.tip + base) t.feeCap else t.gasPrice

def declaredPrice (t : EthTx) : Nat := if t.ty = 2 then t.feeCap else t.gasPrice

def floorMin (s : BState) : Nat := s.minRaw / 10^18

def blockExhausted (s : BState) : Bool := s.maxGas > 0 && s.blockGas ≥ s.maxGas.toNat

def noOut (c : Class) (gw : Int) (gu : Nat) : TxOut :=
  { cls := c, gasWanted := gw, gasUsed := gu, anteIdx := none, rcptIdx := none, logIdx := none, rcptGas := none,
    cumGas := none, status := none, effPrice := none, dSender := 0, dCollector := 0, dSupply := 0, contract := none }

def sumTake (l : List Nat) (n : Nat) : Nat := (l.take n).foldl (· + ·) 0

def listSet (l : List Nat) (i v : Nat) : List Nat := l.set i v

/-- codespace / code of a panic recovered by `runTx` -/
def antePanicCode : String := "undefined/111222"

/-- ante decision of the Ethereum lane (deliver mode); `none` = accepted -/
def anteReject (s : BState) (t : EthTx) : Option String :=
  if t.sig = .wrongChain then some "sdk/18" else
  if t.sig = .unprotected then some "sdk/37" else
  if declaredPrice t * t.gasLimit = 0 then some "sdk/10" else            -- empty fee coins: exactly one fee coin required
  -- an effective fee of zero (possible only when the base fee is 0): `sdk.NewCoins` drops the zero coin and the fee
  -- checker indexes the empty list — a panic, recovered by `runTx`: refused, nothing written
  if effPrice t s.baseFee * t.gasLimit = 0 then some antePanicCode else
  -- `getTxPriority` takes the price back out of the fee coin: fee / gas
  if effPrice t s.baseFee * t.gasLimit / t.gasLimit < max s.baseFee (floorMin s) then some "sdk/13" else
  if s.bal.get t.sender < effPrice t s.baseFee * t.gasLimit then some "sdk/5" else
  if t.sig = .fromMismatch then some "sdk/24" else
  if t.nonce ≠ s.seq.get t.sender then some "sdk/3" else
  none

/-- ante effects, written to the block state whatever happens next: fee moved to the collector,
sequence + 1, transient tx counter + 1, assume-failed gas (= gas limit) and zero logs recorded -/
def anteState (s : BState) (t : EthTx) : BState :=
  { s with
    bal := s.bal.set t.sender (s.bal.get t.sender - effPrice t s.baseFee * t.gasLimit),
    seq := s.seq.set t.sender (s.seq.get t.sender + 1),
    txCount := s.txCount + 1,
    gasSlots := s.gasSlots ++ [t.gasLimit],
    logSlots := s.logSlots ++ [0] }

/-- the handler failed (error, panic, or block gas overflow after execution): message cache dropped,
ante effects stay, `gu` is what the tx gas meter shows (and what the block meter is charged) -/
def failedOut (s : BState) (t : EthTx) (c : Class) (gu : Nat) : BState × TxOut :=
  ({ anteState s t with blockGas := s.blockGas + gu },
   { noOut c t.gasLimit gu with anteIdx := some s.txCount,
                                 dSender := -((effPrice t s.baseFee * t.gasLimit : Nat) : Int),
                                 dCollector := ((effPrice t s.baseFee * t.gasLimit : Nat) : Int) })

def cerrCond (s : BState) (t : EthTx) : Bool :=
  decide (t.gasLimit < t.intrinsic) || (decide (t.value > 0) && decide ((anteState s t).bal.get t.sender < t.value))

def oogCond (s : BState) (x : Exec) : Bool := decide (s.maxGas > 0) && decide (s.blockGas + x.gasUsed > s.maxGas.toNat)

/-- execution committed (with or without a VM error) -/
def committedOut (s : BState) (t : EthTx) (x : Exec) : BState × TxOut :=
  let p := effPrice t s.baseFee
  let fee := p * t.gasLimit
  let idx := s.txCount
  let s1 := anteState s t
  let eg := x.gasUsed
  let refund := (t.gasLimit - eg) * p
  let moved := if x.vmErr then 0 else t.value
  let bal1 := s1.bal.set t.sender (s1.bal.get t.sender + refund - moved)
  let bal2 := match t.toWallet with
    | some w => bal1.set w (bal1.get w + moved)
    | none => bal1
  ({ s1 with bal := bal2, blockGas := s.blockGas + eg,
             gasSlots := listSet s1.gasSlots idx eg, logSlots := listSet s1.logSlots idx x.nLogs },
   { cls := if x.vmErr then .vmerr else .ok, gasWanted := t.gasLimit, gasUsed := eg,
     anteIdx := some idx, rcptIdx := some idx,
     logIdx := if x.nLogs > 0 then some (sumTake s.logSlots idx) else none,
     rcptGas := some eg, cumGas := some (eg + sumTake s.gasSlots idx),
     status := some (if x.vmErr then 0 else 1), effPrice := some p,
     dSender := -(fee : Int) + refund - moved + (if t.toWallet = some t.sender then (moved : Int) else 0),
     dCollector := (fee : Int) - refund,
     dSupply := -((if x.vmErr then 0 else t.sdBurn : Nat) : Int),
     contract := some (t.create && !x.vmErr) })

/-- one Ethereum transaction in deliver mode -/
def stepEth (s : BState) (t : EthTx) (x : Exec) : BState × TxOut :=
  if blockExhausted s then (s, noOut .dropped 0 0) else
  if t.gasLimit < 20999 then
    -- msg.ValidateBasic in runTx (`gas < ethparams.TxGas-1`, x/evm/types/msg.go; `Facts.Block.fact_min_gas`): no ante, GasWanted 0;
    -- the context's own meter reading is reported and charged to the block
    ({ s with blockGas := s.blockGas + x.meterGas }, noOut .preBasic 0 x.meterGas)
  else
  match anteReject s t with
  | some code =>
    if code = antePanicCode then
      -- the panic is recovered in `runTx` before the ante handler returns: GasWanted 0, and the reading of the context's own
      -- meter (the transaction-size gas) is reported and charged to the block; nothing else is written
      ({ s with blockGas := s.blockGas + x.meterGas }, noOut (.anteRejected code) 0 x.meterGas)
    else (s, noOut (.anteRejected code) (-1) 0)     -- infinite meter's limit cast to int64; nothing written
  | none =>
    if x.panicked then failedOut s t .panic 0 else
    if cerrCond s t then failedOut s t .cerr t.gasLimit else
    if oogCond s x then failedOut s t .blockOog x.gasUsed else
    committedOut s t x

structure CosTx where
  sender : Nat
  gasLimit : Nat
  fee : Nat
  value : Nat
  to : Nat
  nonce : Nat

/-- a Cosmos bank send; `ok`/`gasUsed` are observed (SDK gas metering is not modelled) -/
def stepCos (s : BState) (t : CosTx) (ok : Bool) (gasUsed : Nat) : BState × TxOut :=
  if blockExhausted s then (s, noOut .dropped 0 0) else
  let rej : Option String :=
    if t.fee / t.gasLimit < max s.baseFee (floorMin s) then some "sdk/13" else
    if s.bal.get t.sender < t.fee then some "sdk/5" else
    if t.nonce ≠ s.seq.get t.sender then some "sdk/32" else none
  match rej with
  | some code => ({ s with blockGas := s.blockGas + min gasUsed t.gasLimit }, noOut (.anteRejected code) t.gasLimit gasUsed)
  | none =>
    let s1 : BState := { s with
      bal := s.bal.set t.sender (s.bal.get t.sender - t.fee),
      seq := s.seq.set t.sender (s.seq.get t.sender + 1) }
    if s1.maxGas > 0 ∧ s1.blockGas + gasUsed > s1.maxGas.toNat then
      ({ s1 with blockGas := s1.blockGas + gasUsed },
       { noOut .blockOog t.gasLimit gasUsed with dSender := -(t.fee : Int), dCollector := t.fee })
    else if !ok then
      ({ s1 with blockGas := s1.blockGas + gasUsed },
       { noOut .cerr t.gasLimit gasUsed with dSender := -(t.fee : Int), dCollector := t.fee })
    else
      let bal1 := s1.bal.set t.sender (s1.bal.get t.sender - t.value)
      let bal2 := bal1.set t.to (bal1.get t.to + t.value)
      ({ s1 with bal := bal2, blockGas := s1.blockGas + gasUsed },
       { noOut .ok t.gasLimit gasUsed with dSender := -(t.fee : Int) - t.value + (if t.to = t.sender then (t.value : Int) else 0),
                                           dCollector := t.fee })

/-- end of block: the fee market computes the next base fee from the block gas meter -/
def endBlock (s : BState) : FeeMarket.Res :=
  FeeMarket.calcBaseFee FeeMarket.londonConsts s.baseFee (some s.maxGas) s.blockGas s.minRaw

end Evermint.Block
