import EvermintModel.Model.World
import EvermintModel.Base.Guard
/-! Bank-level lemmas over `World`: what each primitive does to supply and to the EVM module account.
A successful run is inverted as an equation for the resulting world (`sendCoins_ok`, `burn_ok`, `destroyAccount_ok`),
so that what it leaves alone is `rfl`. -/
namespace Evermint

theorem ok_of_ite_error {ε α : Type} {c : Prop} [Decidable c] {e : ε} {b : Except ε α} {x : α}
    (h : (if c then .error e else b) = .ok x) : ¬ c ∧ b = .ok x :=
  (of_ite_eq h).resolve_left fun h => nomatch h.2

theorem ok_of_bind {ε α β : Type} {a : Except ε α} {f : α → Except ε β} {y : β}
    (h : a >>= f = .ok y) : ∃ x, a = .ok x ∧ f x = .ok y := by
  cases a with
  | error e => cases h
  | ok x => exact ⟨x, rfl, h⟩

theorem evmDenom_lt : evmDenom < 4096 := by decide

namespace World

theorem pair_inj {a a' d d' : Nat} (hd : d < 4096) (hd' : d' < 4096) (h : pair a d = pair a' d') : a = a' ∧ d = d' := by
  unfold pair at h; omega

theorem pair_ne_of_addr {a a' d d' : Nat} (hd : d < 4096) (hd' : d' < 4096) (h : a ≠ a') : pair a d ≠ pair a' d' :=
  fun e => h (pair_inj hd hd' e).1

@[simp] theorem balOf_setBal_eq (w : World) (a : Addr) (d : Denom) (n : Nat) : (w.setBal a d n).balOf a d = n := by
  simp [balOf, setBal]

theorem balOf_setBal_ne (w : World) {a a' : Addr} {d d' : Denom} (n : Nat) (hd : d < 4096) (hd' : d' < 4096)
    (h : a' ≠ a ∨ d' ≠ d) : (w.setBal a d n).balOf a' d' = w.balOf a' d' :=
  FMap.get_set_ne _ _ _ _ fun e => h.elim (· (pair_inj hd' hd e).1) (· (pair_inj hd' hd e).2)

@[simp] theorem setBal_supply (w : World) (a : Addr) (d : Denom) (n : Nat) : (w.setBal a d n).supply = w.supply := rfl
@[simp] theorem setBal_evmMod (w : World) (a : Addr) (d : Denom) (n : Nat) : (w.setBal a d n).evmMod = w.evmMod := rfl

theorem ensureAcc_eq (w : World) (a : Addr) :
    w.ensureAcc a = { w with acc := (w.ensureAcc a).acc, nextAcc := (w.ensureAcc a).nextAcc } := by
  unfold ensureAcc; split <;> rfl

@[simp] theorem ensureAcc_supply (w : World) (a : Addr) : (w.ensureAcc a).supply = w.supply := by rw [ensureAcc_eq]
@[simp] theorem ensureAcc_bal (w : World) (a : Addr) : (w.ensureAcc a).bal = w.bal := by rw [ensureAcc_eq]
@[simp] theorem ensureAcc_evmMod (w : World) (a : Addr) : (w.ensureAcc a).evmMod = w.evmMod := by rw [ensureAcc_eq]
@[simp] theorem ensureAcc_codeHash (w : World) (a : Addr) : (w.ensureAcc a).codeHash = w.codeHash := by rw [ensureAcc_eq]
@[simp] theorem ensureAcc_storage (w : World) (a : Addr) : (w.ensureAcc a).storage = w.storage := by rw [ensureAcc_eq]

theorem ensureAcc_acc_get (w : World) (a x : Addr) :
    (w.ensureAcc a).acc.get x =
      if x = a ∧ w.acc.get a = none then some { kind := .base, seq := 0, num := w.nextAcc } else w.acc.get x := by
  unfold ensureAcc hasAcc
  cases h : w.acc.get a <;> simp [FMap.get_set]

@[simp] theorem balOf_ensureAcc (w : World) (x a : Addr) (d : Denom) : (w.ensureAcc x).balOf a d = w.balOf a d := by
  simp [balOf]

theorem spendable_le (w : World) (a : Addr) (d : Denom) : w.spendable a d ≤ w.balOf a d := Nat.sub_le _ _

theorem sendCoins_ok {w w' : World} {f t : Addr} {d : Denom} {n : Nat} (h : w.sendCoins f t d n = .ok w') :
    n ≤ w.spendable f d ∧ ∃ acc nx ev, w' =
      { (w.setBal f d (w.balOf f d - n)).setBal t d ((w.setBal f d (w.balOf f d - n)).balOf t d + n) with
        acc := acc, nextAcc := nx, events := ev } := by
  obtain ⟨hsp, h⟩ := ok_of_ite_error h
  cases h
  exact ⟨by omega, _, _, _, by rw [ensureAcc_eq]⟩

/-- the bank's books after `n` of denomination `d` went from `f` to another account `t` -/
structure Sent (w w' : World) (f t : Addr) (d : Denom) (n : Nat) : Prop where
  evmMod : w'.evmMod = w.evmMod
  supply : w'.supply = w.supply
  balOf_from : w'.balOf f d = w.balOf f d - n
  balOf_to : w'.balOf t d = w.balOf t d + n
  balOf_ne : ∀ a d', d' < 4096 → a ≠ f ∧ a ≠ t ∨ d' ≠ d → w'.balOf a d' = w.balOf a d'

theorem sendCoins_bal {w w' : World} {f t : Addr} {d : Denom} {n : Nat} (hd : d < 4096)
    (h : w.sendCoins f t d n = .ok w') (hft : f ≠ t) : Sent w w' f t d n := by
  obtain ⟨-, _, _, _, rfl⟩ := sendCoins_ok h
  refine ⟨rfl, rfl, ?_, ?_, fun a d' hd' hne => ?_⟩
  · show ((w.setBal f d _).setBal t d _).balOf f d = _
    rw [balOf_setBal_ne _ _ hd hd (.inl hft), balOf_setBal_eq]
  · show ((w.setBal f d _).setBal t d _).balOf t d = _
    rw [balOf_setBal_eq, balOf_setBal_ne _ _ hd hd (.inl hft.symm)]
  · show ((w.setBal f d _).setBal t d _).balOf a d' = _
    rw [balOf_setBal_ne _ _ hd hd' (hne.imp_left (·.2)), balOf_setBal_ne _ _ hd hd' (hne.imp_left (·.1))]

@[simp] theorem mint_evmMod (w : World) (d : Denom) (n : Nat) : (w.mint d n).evmMod = w.evmMod := rfl
theorem mint_balOf (w : World) (d : Denom) (n : Nat) (a : Addr) (d' : Denom) :
    (w.mint d n).balOf a d' = (w.setBal w.evmMod d (w.balOf w.evmMod d + n)).balOf a d' := rfl
theorem mint_supply (w : World) (d : Denom) (n : Nat) :
    (w.mint d n).supply = w.supply.set d (w.supply.get d + n) := rfl

theorem burn_ok {w w' : World} {d : Denom} {n : Nat} (h : w.burn d n = .ok w') :
    n ≤ w.balOf w.evmMod d ∧ ∃ ev, w' =
      { w.setBal w.evmMod d (w.balOf w.evmMod d - n) with supply := w.supply.set d (w.supply.get d - n), events := ev } := by
  obtain ⟨hle, h⟩ := ok_of_ite_error h
  cases h; exact ⟨by omega, _, rfl⟩

/-- the bank's books after StateDB `AddBalance` / `SubBalance` on an account `a` other than the EVM module
account: `s` is the new supply of `d`, `b` the new balance of `a`.  The coins pass through the module account
and leave it with what it had. -/
structure BalChange (w w' : World) (a : Addr) (d : Denom) (s b : Nat) : Prop where
  evmMod : w'.evmMod = w.evmMod
  supply : w'.supply.get d = s
  supply_ne : ∀ d', d' ≠ d → w'.supply.get d' = w.supply.get d'
  balOf : w'.balOf a d = b
  balOf_mod : w'.balOf w.evmMod d = w.balOf w.evmMod d

theorem mintTo_effect {w w' : World} {a : Addr} {d : Denom} {n : Nat} (hd : d < 4096)
    (h : w.mintTo a d n = .ok w') (ha : a ≠ w.evmMod) :
    BalChange w w' a d (w.supply.get d + n) (w.balOf a d + n) := by
  unfold mintTo at h
  split at h
  · cases h; subst n; exact ⟨rfl, rfl, fun _ _ => rfl, rfl, rfl⟩
  · obtain ⟨_, h⟩ := ok_of_ite_error h
    have s : Sent (w.mint d n) w' w.evmMod a d n := sendCoins_bal hd h ha.symm
    refine ⟨s.evmMod, ?_, fun d' hne => ?_, ?_, ?_⟩
    · rw [s.supply, mint_supply]; exact FMap.get_set_eq ..
    · rw [s.supply, mint_supply]; exact FMap.get_set_ne _ _ _ _ hne
    · rw [s.balOf_to, mint_balOf, balOf_setBal_ne _ _ hd hd (.inl ha)]
    · rw [s.balOf_from, mint_balOf, balOf_setBal_eq]; omega

theorem burnFrom_le {w w' : World} {a : Addr} {d : Denom} {n : Nat} (h : w.burnFrom a d n = .ok w') :
    n ≤ w.spendable a d := by
  unfold burnFrom at h
  split at h
  · omega
  · obtain ⟨_, hs, _⟩ := ok_of_bind h
    exact (sendCoins_ok hs).1

theorem burnFrom_effect {w w' : World} {a : Addr} {d : Denom} {n : Nat} (hd : d < 4096)
    (h : w.burnFrom a d n = .ok w') (ha : a ≠ w.evmMod) :
    BalChange w w' a d (w.supply.get d - n) (w.balOf a d - n) := by
  unfold burnFrom at h
  split at h
  · cases h; subst n; exact ⟨rfl, rfl, fun _ _ => rfl, rfl, rfl⟩
  · obtain ⟨w1, h1, h⟩ := ok_of_bind h
    have s := sendCoins_bal hd h1 ha
    obtain ⟨_, _, rfl⟩ := burn_ok h
    rw [s.evmMod]
    refine ⟨s.evmMod, ?_, fun d' hne => ?_, ?_, ?_⟩
    · show (w1.supply.set d _).get d = _
      rw [FMap.get_set_eq, s.supply]
    · show (w1.supply.set d _).get d' = _
      rw [FMap.get_set_ne _ _ _ _ hne, s.supply]
    · show (w1.setBal w.evmMod d _).balOf a d = _
      rw [balOf_setBal_ne _ _ hd hd (.inl ha), s.balOf_from]
    · show (w1.setBal w.evmMod d _).balOf w.evmMod d = _
      rw [balOf_setBal_eq, s.balOf_to]; omega

def BankOnly (w w' : World) : Prop := ∃ b s e, w' = { w with bal := b, supply := s, events := e }

theorem BankOnly.refl (w : World) : BankOnly w w := ⟨_, _, _, rfl⟩

theorem BankOnly.trans {a b c : World} : BankOnly a b → BankOnly b c → BankOnly a c := by
  rintro ⟨_, _, _, rfl⟩ ⟨_, _, _, rfl⟩; exact ⟨_, _, _, rfl⟩

theorem BankOnly.setBal (w : World) (a : Addr) (d : Denom) (n : Nat) : BankOnly w (w.setBal a d n) := ⟨_, _, _, rfl⟩
theorem BankOnly.supply (w : World) (s : FMap Nat) : BankOnly w { w with supply := s } := ⟨_, _, _, rfl⟩
theorem BankOnly.events (w : World) (e : Nat) : BankOnly w { w with events := e } := ⟨_, _, _, rfl⟩

theorem BankOnly.foldl {α : Type} {f : World → α → World} {w w0 : World} (h : BankOnly w w0) (l : List α)
    (hf : ∀ x a, BankOnly x (f x a)) : BankOnly w (l.foldl f w0) :=
  List.foldlRecOn l f h fun _ hb a _ => hb.trans (hf _ a)

theorem burnAll_keeps {w w2 : World} {a : Addr} (h : w.burnAll a = .ok w2) : BankOnly w w2 := by
  unfold burnAll at h
  simp only [] at h   -- the `let`s of the body (here and elsewhere: `simp only []` reduces `let`s and matches on constructors, nothing else)
  split at h
  · cases h; exact .refl w
  · obtain ⟨_, h⟩ := ok_of_ite_error h
    cases h
    -- in program order: the sends, their events, the burns, their events
    exact ((((BankOnly.refl w).foldl _ fun _ _ => (BankOnly.setBal ..).trans (.setBal ..)).trans (.events ..)).foldl _
      fun _ _ => (BankOnly.setBal ..).trans (.supply ..)).trans (.events ..)

theorem destroyAccount_ok {w w' : World} {a : Addr} (h : w.destroyAccount a = .ok w') :
    w.destroyable a = true ∧ ∃ b s e, w' =
      { w with acc := w.acc.set a none, bal := b, supply := s, events := e,
               codeHash := w.codeHash.set a 0, storage := w.storage.eraseIf (fun k => k / 4096 == a) } := by
  obtain ⟨hd, h⟩ := ok_of_ite_error h
  obtain ⟨w2, hb, h⟩ := ok_of_bind h
  obtain ⟨b, s, e, rfl⟩ := burnAll_keeps hb
  cases h
  exact ⟨by simpa using hd, b, s, e, rfl⟩

end World
end Evermint
