import EvermintModel.Model.Keccak
/-!
# A round of Keccak-f written out lane by lane, for the kernel

`Keccak.round` works on arrays (`Array.range`, `map`, a `for` loop with `set!`), which the kernel evaluates slowly: an
`Array.getD` costs it about as much as ten lane operations, and a round has some 240 of them.  `roundLanes` is the same round on
a structure of 25 lanes, unrolled (`round_toArray`); through `absorbBlock_eq` the test vectors of `Properties/C13Create.lean`
are evaluated with it, twenty times faster.
-/
namespace Evermint.Keccak

theorem range_5 : Array.range 5 = #[0, 1, 2, 3, 4] := by decide

theorem range_25 : Array.range 25 =
    #[0, 1, 2, 3, 4, 5, 6, 7, 8, 9, 10, 11, 12, 13, 14, 15, 16, 17, 18, 19, 20, 21, 22, 23, 24] := by decide

theorem range'_25 : List.range' 0 25 =
    [0, 1, 2, 3, 4, 5, 6, 7, 8, 9, 10, 11, 12, 13, 14, 15, 16, 17, 18, 19, 20, 21, 22, 23, 24] := by decide

theorem replicate_25 : Array.replicate 25 (0 : UInt64) =
    #[0, 0, 0, 0, 0, 0, 0, 0, 0, 0, 0, 0, 0, 0, 0, 0, 0, 0, 0, 0, 0, 0, 0, 0, 0] := by decide

/-- the state, lane `x + 5 * y` in field `a(x+5y)` -/
structure Lanes where
  (a0 a1 a2 a3 a4 a5 a6 a7 a8 a9 a10 a11 a12 a13 a14 a15 a16 a17 a18 a19 a20 a21 a22 a23 a24 : UInt64)

def Lanes.ofArray (a : Array UInt64) : Lanes :=
  ⟨a.getD 0 0, a.getD 1 0, a.getD 2 0, a.getD 3 0, a.getD 4 0, a.getD 5 0, a.getD 6 0, a.getD 7 0, a.getD 8 0, a.getD 9 0, a.getD 10 0, a.getD 11 0,
   a.getD 12 0, a.getD 13 0, a.getD 14 0, a.getD 15 0, a.getD 16 0, a.getD 17 0, a.getD 18 0, a.getD 19 0, a.getD 20 0, a.getD 21 0, a.getD 22 0, a.getD 23 0, a.getD 24 0⟩

def Lanes.toArray (s : Lanes) : Array UInt64 :=
  #[s.a0, s.a1, s.a2, s.a3, s.a4, s.a5, s.a6, s.a7, s.a8, s.a9, s.a10, s.a11, s.a12,
    s.a13, s.a14, s.a15, s.a16, s.a17, s.a18, s.a19, s.a20, s.a21, s.a22, s.a23, s.a24]

def roundLanes (s : Lanes) (rc : UInt64) : Lanes :=
  -- θ: column parities, and what each column is xored with
  let c0 := s.a0 ^^^ s.a5 ^^^ s.a10 ^^^ s.a15 ^^^ s.a20
  let c1 := s.a1 ^^^ s.a6 ^^^ s.a11 ^^^ s.a16 ^^^ s.a21
  let c2 := s.a2 ^^^ s.a7 ^^^ s.a12 ^^^ s.a17 ^^^ s.a22
  let c3 := s.a3 ^^^ s.a8 ^^^ s.a13 ^^^ s.a18 ^^^ s.a23
  let c4 := s.a4 ^^^ s.a9 ^^^ s.a14 ^^^ s.a19 ^^^ s.a24
  let d0 := c4 ^^^ rotl c1 1
  let d1 := c0 ^^^ rotl c2 1
  let d2 := c1 ^^^ rotl c3 1
  let d3 := c2 ^^^ rotl c4 1
  let d4 := c3 ^^^ rotl c0 1
  -- ρ and π: B[y, 2x+3y] = rot(A[x, y], r[x, y])
  let b0 := rotl (s.a0 ^^^ d0) 0
  let b1 := rotl (s.a6 ^^^ d1) 44
  let b2 := rotl (s.a12 ^^^ d2) 43
  let b3 := rotl (s.a18 ^^^ d3) 21
  let b4 := rotl (s.a24 ^^^ d4) 14
  let b5 := rotl (s.a3 ^^^ d3) 28
  let b6 := rotl (s.a9 ^^^ d4) 20
  let b7 := rotl (s.a10 ^^^ d0) 3
  let b8 := rotl (s.a16 ^^^ d1) 45
  let b9 := rotl (s.a22 ^^^ d2) 61
  let b10 := rotl (s.a1 ^^^ d1) 1
  let b11 := rotl (s.a7 ^^^ d2) 6
  let b12 := rotl (s.a13 ^^^ d3) 25
  let b13 := rotl (s.a19 ^^^ d4) 8
  let b14 := rotl (s.a20 ^^^ d0) 18
  let b15 := rotl (s.a4 ^^^ d4) 27
  let b16 := rotl (s.a5 ^^^ d0) 36
  let b17 := rotl (s.a11 ^^^ d1) 10
  let b18 := rotl (s.a17 ^^^ d2) 15
  let b19 := rotl (s.a23 ^^^ d3) 56
  let b20 := rotl (s.a2 ^^^ d2) 62
  let b21 := rotl (s.a8 ^^^ d3) 55
  let b22 := rotl (s.a14 ^^^ d4) 39
  let b23 := rotl (s.a15 ^^^ d0) 41
  let b24 := rotl (s.a21 ^^^ d1) 2
  -- χ, and ι on lane 0
  ⟨b0 ^^^ (~~~ b1 &&& b2) ^^^ rc,
   b1 ^^^ (~~~ b2 &&& b3),
   b2 ^^^ (~~~ b3 &&& b4),
   b3 ^^^ (~~~ b4 &&& b0),
   b4 ^^^ (~~~ b0 &&& b1),
   b5 ^^^ (~~~ b6 &&& b7),
   b6 ^^^ (~~~ b7 &&& b8),
   b7 ^^^ (~~~ b8 &&& b9),
   b8 ^^^ (~~~ b9 &&& b5),
   b9 ^^^ (~~~ b5 &&& b6),
   b10 ^^^ (~~~ b11 &&& b12),
   b11 ^^^ (~~~ b12 &&& b13),
   b12 ^^^ (~~~ b13 &&& b14),
   b13 ^^^ (~~~ b14 &&& b10),
   b14 ^^^ (~~~ b10 &&& b11),
   b15 ^^^ (~~~ b16 &&& b17),
   b16 ^^^ (~~~ b17 &&& b18),
   b17 ^^^ (~~~ b18 &&& b19),
   b18 ^^^ (~~~ b19 &&& b15),
   b19 ^^^ (~~~ b15 &&& b16),
   b20 ^^^ (~~~ b21 &&& b22),
   b21 ^^^ (~~~ b22 &&& b23),
   b22 ^^^ (~~~ b23 &&& b24),
   b23 ^^^ (~~~ b24 &&& b20),
   b24 ^^^ (~~~ b20 &&& b21)⟩

theorem round_toArray (s : Lanes) (rc : UInt64) : round s.toArray rc = (roundLanes s rc).toArray := by
  cases s
  -- with the index arrays as literals `simp` unrolls the maps and the loop of `round` on the 25 variables
  simp [round, roundLanes, Lanes.toArray, range_5, range_25, range'_25, replicate_25, lane, rotations]

theorem foldl_round_toArray (l : List UInt64) (s : Lanes) :
    l.foldl round s.toArray = (l.foldl roundLanes s).toArray := by
  induction l generalizing s with
  | nil => rfl
  | cons rc l ih => rw [List.foldl_cons, round_toArray, ih, List.foldl_cons]

/-- a state that is not 25 lanes long goes to the model's `permute`, so `permuteLanes_eq` needs no hypothesis on the size -/
def permuteLanes (a : Array UInt64) : Array UInt64 :=
  if (Lanes.ofArray a).toArray = a then (roundConstants.foldl roundLanes (Lanes.ofArray a)).toArray else permute a

theorem permuteLanes_eq (a : Array UInt64) : permuteLanes a = permute a := by
  unfold permuteLanes
  split
  next h => rw [permute, ← Array.foldl_toList, ← Array.foldl_toList, ← foldl_round_toArray, h]
  · rfl

theorem absorbBlock_eq : absorbBlock = fun st block => permuteLanes (absorbBlock.go 0 block st 17) := by
  funext st block
  rw [permuteLanes_eq]; rfl

end Evermint.Keccak
