import EvermintModel.Model.Erc20
import EvermintModel.Base.Guard
/-!
# What `Erc20.step` does (used by C10, C12)

A call reverts and is the identity, or ran its method body to the end (`step_cases`).  The four moving methods share one
body, `moveFrom`, with effect `Moved`; the exactness theorems of C10 are read off `step_move`.
-/
namespace Evermint.Erc20

theorem step_cases (s : State) (c : Call) :
    step s c = (s, .revert) ∨
    ∃ d s' r l, s.denomOf.get c.token = some d ∧ exec s c d = some (s', r, l) ∧ step s c = (s', .ok r l) := by
  unfold step
  split
  · exact .inl rfl
  · rename_i d hd
    split
    · exact .inl rfl
    · rename_i s' r l he
      exact .inr ⟨d, s', r, l, hd, he, rfl⟩

theorem step_ok {s : State} {c : Call} (h : (step s c).2 ≠ .revert) :
    ∃ d s' r l, s.denomOf.get c.token = some d ∧ exec s c d = some (s', r, l) ∧ step s c = (s', .ok r l) :=
  (step_cases s c).resolve_left fun hr => h (by rw [hr])

/-- the shape of every state-changing method: a guard on the addresses in front of a body -/
theorem step_guarded {s : State} {c : Call} {d : Nat} {g : Prop} [Decidable g] {body : Option (State × Nat × Option Log)}
    (hd : s.denomOf.get c.token = some d) (he : exec s c d = if g then none else body)
    (hok : (step s c).2 ≠ .revert) :
    ¬ g ∧ ∃ s' r l, body = some (s', r, l) ∧ step s c = (s', .ok r l) := by
  obtain ⟨d1, s', r, l, hd1, he1, hs⟩ := step_ok hok
  cases hd.symm.trans hd1
  have ⟨hg, hb⟩ := Option.ite_none_left_eq_some.1 (he.symm.trans he1)
  exact ⟨hg, s', r, l, hb, hs⟩

/-- the balance table after moving `amt` of denom `d` from `f` to `to` (`to = 0`: destroyed) -/
def movedBal (s : State) (d f to amt : Nat) (k : Nat × Nat) : Nat :=
  if amt = 0 ∨ f = to then s.bal.get k
  else if k = (f, d) then s.bal.get k - amt
  else if to ≠ 0 ∧ k = (to, d) then s.bal.get k + amt
  else s.bal.get k

def movedSupply (s : State) (d f to amt : Nat) (d' : Nat) : Nat :=
  if amt ≠ 0 ∧ f ≠ to ∧ to = 0 ∧ d' = d then s.supply.get d' - amt else s.supply.get d'

theorem movedSupply_of_ne_zero {s : State} {d f to amt d' : Nat} (h : to ≠ 0) :
    movedSupply s d f to amt d' = s.supply.get d' :=
  if_neg fun hh => h hh.2.2.1

theorem xfer_spec {s s' : State} {d f to amt : Nat} (h : xfer s d f to amt = some s') :
    amt ≤ s.bal.get (f, d) ∧ (amt ≠ 0 → f ≠ to → to ≠ 0 → s.blocked.contains to = false) ∧
    ∃ b su, s' = { s with bal := b, supply := su } ∧
      (∀ k, b.get k = movedBal s d f to amt k) ∧ (∀ d', su.get d' = movedSupply s d f to amt d') := by
  unfold xfer at h
  obtain ⟨hlt, h⟩ := Option.ite_none_left_eq_some.1 h
  refine ⟨Nat.le_of_not_lt hlt, ?_⟩
  rcases of_ite_eq h with ⟨h2, e⟩ | ⟨h2, h⟩
  · cases e
    exact ⟨fun ha hf => (h2.elim ha hf).elim, _, _, rfl, fun k => (if_pos h2).symm,
      fun d' => (if_neg fun hh => h2.elim hh.1 hh.2.1).symm⟩
  have ⟨ha, hft⟩ := not_or.1 h2
  rcases of_ite_eq h with ⟨rfl, e⟩ | ⟨h3, h⟩
  · cases e
    refine ⟨fun _ _ h0 => absurd rfl h0, _, _, rfl, fun k => ?_, fun d' => ?_⟩
    · by_cases hk : k = (f, d) <;> simp [movedBal, h2, hk]
    · by_cases hd : d' = d <;> simp [movedSupply, ha, hft, hd]
  obtain ⟨hb, e⟩ := Option.ite_none_left_eq_some.1 h
  cases e
  refine ⟨fun _ _ _ => by simpa using hb, _, _, rfl, fun k => ?_, fun d' => (movedSupply_of_ne_zero h3).symm⟩
  have hne : (to, d) ≠ (f, d) := fun e => hft (congrArg Prod.fst e).symm
  by_cases hk : k = (f, d)
  · simp [movedBal, h2, hk, hne.symm]
  · by_cases hk2 : k = (to, d) <;> simp [movedBal, h2, h3, hk, hk2, hne]

/-- the one spend both allowance tables undergo: the code's in `spendAllowance`, the ghost in `ghostSpend` -/
def spent {K : Type} [DecidableEq K] (m : KMap K Nat) (key : K) (amt : Nat) : KMap K Nat :=
  if m.get key = maxU256 then m else m.set key (m.get key - amt)

theorem spent_get {K : Type} [DecidableEq K] (m : KMap K Nat) (key k : K) (amt : Nat) :
    (spent m key amt).get k = if k = key ∧ m.get key ≠ maxU256 then m.get k - amt else m.get k := by
  unfold spent
  split
  · rename_i hmax
    exact (if_neg fun hh => hh.2 hmax).symm
  · rename_i hne
    by_cases hk : k = key <;> simp [hk, hne]

theorem spendAllowance_spec {s s1 : State} {o sp amt : Nat} (h : spendAllowance s o sp amt = some s1) :
    (s.allow.get (o, sp) = maxU256 ∨ amt ≤ s.allow.get (o, sp)) ∧
    s1 = { s with allow := spent s.allow (o, sp) amt } := by
  unfold spendAllowance at h
  rcases of_ite_eq h with ⟨hmax, e⟩ | ⟨hne, h⟩
  · cases e
    exact ⟨.inl hmax, by rw [spent, if_pos hmax]⟩
  obtain ⟨hlt, e⟩ := Option.ite_none_left_eq_some.1 h
  cases e
  exact ⟨.inr (Nat.le_of_not_lt hlt), by rw [spent, if_neg hne]⟩

theorem ghostSpend_eq (x : State) (t o sp amt : Nat) :
    ghostSpend x t o sp amt = { x with ghost := spent x.ghost (t, o, sp) amt } := by
  unfold ghostSpend spent
  by_cases h : x.ghost.get (t, o, sp) = maxU256
  · simp only [if_pos h]
  · simp only [if_neg h]

/-- `amt ≤ maxU256` (the ABI decoder's bound) is needed when the allowance is the unlimited one, `maxU256`, which the
code does not compare with `amt` -/
theorem spendIfOther_spec {s s1 : State} {t o caller amt : Nat} (h : spendIfOther s t o caller amt = some s1) :
    (o ≠ caller → amt ≤ maxU256 → amt ≤ s.allow.get (o, caller)) ∧
    s1 = { s with allow := if o = caller then s.allow else spent s.allow (o, caller) amt,
                  ghost := if o = caller then s.ghost else spent s.ghost (t, o, caller) amt } := by
  unfold spendIfOther at h
  rcases of_ite_eq h with ⟨hc, e⟩ | ⟨hc, h⟩
  · cases e
    exact ⟨fun hne => absurd hc hne, by rw [if_pos hc, if_pos hc]⟩
  obtain ⟨s0, hs0, rfl⟩ := Option.map_eq_some_iff.1 h
  obtain ⟨hneed, rfl⟩ := spendAllowance_spec hs0
  exact ⟨fun _ hamt => hneed.elim (fun hmax => hmax ▸ hamt) id, by rw [if_neg hc, if_neg hc, ghostSpend_eq]⟩

/-- `caller` moves `amt` of `owner`'s coins to `to` (`to = 0`: burns them), on `owner`'s allowance unless it is the
owner itself.  In `precompiles_erc20.go` the executors of `transfer`, `transferFrom`, `burn` and `burnFrom` differ in
their zero-address checks only: all end in `transferFrom.transfer`, after `transferFrom.spendAllowance` when the holder
is not the caller. -/
def moveFrom (s : State) (t d caller owner to amt : Nat) : Option (State × Nat × Option Log) :=
  (spendIfOther s t owner caller amt).bind fun s1 =>
    (xfer s1 d owner to amt).map fun s' => (s', 1, some (.transfer t owner to amt))

theorem exec_transferFrom (s : State) (t caller d frm to amt : Nat) :
    exec s ⟨t, caller, .transferFrom frm to amt⟩ d =
      if frm = 0 ∨ to = 0 then none else moveFrom s t d caller frm to amt := rfl

theorem exec_burnFrom (s : State) (t caller d a amt : Nat) :
    exec s ⟨t, caller, .burnFrom a amt⟩ d = if a = 0 then none else moveFrom s t d caller a 0 amt := rfl

theorem moveFrom_self (s : State) (t d caller to amt : Nat) :
    moveFrom s t d caller caller to amt =
      (xfer s d caller to amt).map fun s' => (s', 1, some (.transfer t caller to amt)) := by
  unfold moveFrom spendIfOther; rw [if_pos rfl]; rfl

theorem exec_transfer (s : State) (t caller d to amt : Nat) :
    exec s ⟨t, caller, .transfer to amt⟩ d =
      if caller = 0 ∨ to = 0 then none else moveFrom s t d caller caller to amt := by
  rw [moveFrom_self]; rfl

theorem exec_burn (s : State) (t caller d amt : Nat) :
    exec s ⟨t, caller, .burn amt⟩ d = if caller = 0 then none else moveFrom s t d caller caller 0 amt := by
  rw [moveFrom_self]; rfl

structure Moved (s s' : State) (t d caller owner to amt : Nat) : Prop where
  le : amt ≤ s.bal.get (owner, d)
  bal : ∀ k, s'.bal.get k = movedBal s d owner to amt k
  supply : ∀ d', s'.supply.get d' = movedSupply s d owner to amt d'
  need : owner ≠ caller → amt ≤ maxU256 → amt ≤ s.allow.get (owner, caller)
  allow : s'.allow = if owner = caller then s.allow else spent s.allow (owner, caller) amt
  ghost : s'.ghost = if owner = caller then s.ghost else spent s.ghost (t, owner, caller) amt

theorem Moved.allow_get {s s' : State} {t d caller owner to amt : Nat} (m : Moved s s' t d caller owner to amt)
    (k : Nat × Nat) :
    s'.allow.get k = if owner ≠ caller ∧ k = (owner, caller) ∧ s.allow.get (owner, caller) ≠ maxU256
      then s.allow.get k - amt else s.allow.get k := by
  rw [m.allow]
  by_cases h : owner = caller <;> simp [h, spent_get]

theorem moveFrom_spec {s s' : State} {t d caller owner to amt r : Nat} {l : Option Log}
    (h : moveFrom s t d caller owner to amt = some (s', r, l)) :
    r = 1 ∧ l = some (.transfer t owner to amt) ∧ Moved s s' t d caller owner to amt := by
  obtain ⟨s1, h1, h2⟩ := Option.bind_eq_some_iff.1 h
  obtain ⟨s2, h3, e⟩ := Option.map_eq_some_iff.1 h2
  cases e
  obtain ⟨hneed, rfl⟩ := spendIfOther_spec h1
  obtain ⟨hle, _, b, su, rfl, hb, hsu⟩ := xfer_spec h3
  -- `xfer` ran on the state after the spend, but reads balances and supply only: what `xfer_spec` says holds of `s` by `rfl`
  exact ⟨rfl, rfl, hle, hb, hsu, hneed, rfl, rfl⟩

theorem step_move {s : State} {c : Call} {d owner to amt : Nat} {g : Prop} [Decidable g]
    (hd : s.denomOf.get c.token = some d)
    (he : exec s c d = if g then none else moveFrom s c.token d c.caller owner to amt)
    (hok : (step s c).2 ≠ .revert) :
    ¬ g ∧ (step s c).2 = .ok 1 (some (.transfer c.token owner to amt)) ∧
      Moved s (step s c).1 c.token d c.caller owner to amt := by
  obtain ⟨hg, s', r, l, hb, hs⟩ := step_guarded hd he hok
  obtain ⟨rfl, rfl, m⟩ := moveFrom_spec hb
  rw [hs]
  exact ⟨hg, rfl, m⟩

end Evermint.Erc20
