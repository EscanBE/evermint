import EvermintModel.Model.Block
import EvermintModel.Base.Guard
/-!
# What `Block.stepEth` does

Whatever its class, a transaction is either *not admitted* (dropped, or refused before or by the ante handler: at most
the block gas meter moves), or it *failed* after the ante handler (`failedOut`), or it was *committed* (`committedOut`):
`stepEth_outcome`.  The properties argue kind by kind and know of the class only what `admitted`, `failed`, `receiptGas`
and `valueMoved` say of it in each kind.
-/
namespace Evermint.Block

theorem anteReject_eq_none {s : BState} {t : EthTx} :
    anteReject s t = none ↔
      t.sig = .ok ∧ declaredPrice t * t.gasLimit ≠ 0 ∧ effPrice t s.baseFee * t.gasLimit ≠ 0 ∧
      max s.baseFee (floorMin s) ≤ effPrice t s.baseFee * t.gasLimit / t.gasLimit ∧
      effPrice t s.baseFee * t.gasLimit ≤ s.bal.get t.sender ∧ t.nonce = s.seq.get t.sender := by
  unfold anteReject
  simp only [ite_some_eq_none, Nat.not_lt, Decidable.not_not, and_true]
  -- what is left is that the three refused signature classes are all the classes but `ok`
  generalize t.sig = g
  cases g <;> simp

theorem stepEth_dropped {s : BState} (t : EthTx) (x : Exec) (h0 : blockExhausted s = true) :
    stepEth s t x = (s, noOut .dropped 0 0) := by
  rw [stepEth, if_pos h0]

theorem stepEth_preBasic {s : BState} {t : EthTx} (x : Exec) (h0 : blockExhausted s = false) (h1 : t.gasLimit < 20999) :
    stepEth s t x = ({ s with blockGas := s.blockGas + x.meterGas }, noOut .preBasic 0 x.meterGas) := by
  rw [stepEth, h0, if_neg Bool.false_ne_true, if_pos h1]

theorem stepEth_refused {s : BState} {t : EthTx} {code : String} (x : Exec) (h0 : blockExhausted s = false)
    (h1 : ¬ t.gasLimit < 20999) (hr : anteReject s t = some code) :
    stepEth s t x =
      if code = antePanicCode then ({ s with blockGas := s.blockGas + x.meterGas }, noOut (.anteRejected code) 0 x.meterGas)
      else (s, noOut (.anteRejected code) (-1) 0) := by
  rw [stepEth, h0, if_neg Bool.false_ne_true, if_neg h1, hr]

theorem stepEth_accepted {s : BState} {t : EthTx} (x : Exec) (h0 : blockExhausted s = false)
    (h1 : ¬ t.gasLimit < 20999) (hr : anteReject s t = none) :
    stepEth s t x =
      if x.panicked then failedOut s t .panic 0 else
      if cerrCond s t then failedOut s t .cerr t.gasLimit else
      if oogCond s x then failedOut s t .blockOog x.gasUsed else committedOut s t x := by
  rw [stepEth, h0, if_neg Bool.false_ne_true, if_neg h1, hr]

/-- the seven outcomes; for an ante refusal gas wanted and used are left open (`stepEth_refused` has them) -/
theorem stepEth_cases (s : BState) (t : EthTx) (x : Exec) :
    (blockExhausted s = true ∧ stepEth s t x = (s, noOut .dropped 0 0)) ∨
    (blockExhausted s = false ∧ t.gasLimit < 20999 ∧
      stepEth s t x = ({ s with blockGas := s.blockGas + x.meterGas }, noOut .preBasic 0 x.meterGas)) ∨
    (blockExhausted s = false ∧ ¬ t.gasLimit < 20999 ∧ ∃ code gw gu, anteReject s t = some code ∧
      stepEth s t x = ({ s with blockGas := s.blockGas + gu }, noOut (.anteRejected code) gw gu)) ∨
    (blockExhausted s = false ∧ ¬ t.gasLimit < 20999 ∧ anteReject s t = none ∧ x.panicked = true ∧
      stepEth s t x = failedOut s t .panic 0) ∨
    (blockExhausted s = false ∧ ¬ t.gasLimit < 20999 ∧ anteReject s t = none ∧ x.panicked = false ∧ cerrCond s t = true ∧
      stepEth s t x = failedOut s t .cerr t.gasLimit) ∨
    (blockExhausted s = false ∧ ¬ t.gasLimit < 20999 ∧ anteReject s t = none ∧ x.panicked = false ∧ cerrCond s t = false ∧
      oogCond s x = true ∧ stepEth s t x = failedOut s t .blockOog x.gasUsed) ∨
    (blockExhausted s = false ∧ ¬ t.gasLimit < 20999 ∧ anteReject s t = none ∧ x.panicked = false ∧ cerrCond s t = false ∧
      oogCond s x = false ∧ stepEth s t x = committedOut s t x) := by
  cases h0 : blockExhausted s
  case true => exact .inl ⟨rfl, stepEth_dropped t x h0⟩
  by_cases h1 : t.gasLimit < 20999
  · exact .inr (.inl ⟨rfl, h1, stepEth_preBasic x h0 h1⟩)
  cases hr : anteReject s t with
  | some code =>
    refine .inr (.inr (.inl ⟨rfl, h1, code, ?_⟩))
    rw [stepEth_refused x h0 h1 hr]
    by_cases hp : code = antePanicCode
    · exact ⟨0, x.meterGas, rfl, if_pos hp⟩
    · exact ⟨-1, 0, rfl, if_neg hp⟩
  | none =>
    refine .inr (.inr (.inr ?_))
    rw [stepEth_accepted x h0 h1 hr]
    cases x.panicked
    case true => exact .inl ⟨rfl, h1, rfl, rfl, rfl⟩
    cases cerrCond s t
    case true => exact .inr (.inl ⟨rfl, h1, rfl, rfl, rfl, rfl⟩)
    cases oogCond s x
    case true => exact .inr (.inr (.inl ⟨rfl, h1, rfl, rfl, rfl, rfl, rfl⟩))
    exact .inr (.inr (.inr ⟨rfl, h1, rfl, rfl, rfl, rfl, rfl⟩))

/-- the gas the Ethereum receipt shows for a transaction of this class: the real gas used when the
execution was committed, the full gas limit when it failed outside the EVM (the assume-failed
receipt written by the ante handler) -/
def receiptGas (t : EthTx) (x : Exec) : Class → Nat
  | .ok | .vmerr => x.gasUsed
  | .cerr | .panic | .blockOog => t.gasLimit
  | _ => 0

def valueMoved (t : EthTx) (x : Exec) : Class → Nat
  | .ok => t.value
  | _ => 0

def admitted : Class → Bool
  | .ok | .vmerr | .cerr | .panic | .blockOog => true
  | _ => false

def failed : Class → Bool
  | .cerr | .panic | .blockOog => true
  | _ => false

theorem stepEth_outcome (s : BState) (t : EthTx) (x : Exec) :
    (∃ c gw gu, admitted c = false ∧ stepEth s t x = ({ s with blockGas := s.blockGas + gu }, noOut c gw gu)) ∨
    (anteReject s t = none ∧ ∃ c gu, failed c = true ∧ stepEth s t x = failedOut s t c gu) ∨
    (anteReject s t = none ∧ stepEth s t x = committedOut s t x) := by
  rcases stepEth_cases s t x with ⟨_, h⟩ | ⟨_, _, h⟩ | ⟨_, _, code, gw, gu, _, h⟩ | ⟨_, _, hr, _, h⟩ | ⟨_, _, hr, _, _, h⟩ |
    ⟨_, _, hr, _, _, _, h⟩ | ⟨_, _, hr, _, _, _, h⟩
  · exact .inl ⟨.dropped, 0, 0, rfl, h⟩
  · exact .inl ⟨.preBasic, 0, _, rfl, h⟩
  · exact .inl ⟨.anteRejected code, gw, gu, rfl, h⟩
  · exact .inr (.inl ⟨hr, .panic, _, rfl, h⟩)
  · exact .inr (.inl ⟨hr, .cerr, _, rfl, h⟩)
  · exact .inr (.inl ⟨hr, .blockOog, _, rfl, h⟩)
  · exact .inr (.inr ⟨hr, h⟩)

theorem ne_ok_of_not_admitted {c : Class} (h : admitted c = false) : c ≠ .ok := by
  rintro rfl; cases h

theorem receiptGas_of_not_admitted {c : Class} (h : admitted c = false) (t : EthTx) (x : Exec) : receiptGas t x c = 0 := by
  cases c <;> first | rfl | cases h

theorem admitted_of_failed {c : Class} (h : failed c = true) : admitted c = true := by
  cases c <;> first | rfl | cases h

theorem ne_ok_of_failed {c : Class} (h : failed c = true) : c ≠ .ok := by
  rintro rfl; cases h

theorem receiptGas_of_failed {c : Class} (h : failed c = true) (t : EthTx) (x : Exec) : receiptGas t x c = t.gasLimit := by
  cases c <;> first | rfl | cases h

theorem valueMoved_of_ne_ok {c : Class} (h : c ≠ .ok) (t : EthTx) (x : Exec) : valueMoved t x c = 0 := by
  cases c <;> first | rfl | exact absurd rfl h

theorem receiptGas_committed (t : EthTx) (x : Exec) (b : Bool) : receiptGas t x (if b then .vmerr else .ok) = x.gasUsed := by
  cases b <;> rfl

theorem valueMoved_committed (t : EthTx) (x : Exec) (b : Bool) :
    valueMoved t x (if b then .vmerr else .ok) = if b then 0 else t.value := by
  cases b <;> rfl

theorem stepEth_of_not_admitted {s : BState} {t : EthTx} {x : Exec} (hadm : admitted (stepEth s t x).2.cls = false) :
    ∃ c gw gu, stepEth s t x = ({ s with blockGas := s.blockGas + gu }, noOut c gw gu) := by
  rcases stepEth_outcome s t x with ⟨c, gw, gu, -, h⟩ | ⟨-, c, gu, hc, h⟩ | ⟨-, h⟩
  · exact ⟨c, gw, gu, h⟩
  · rw [h] at hadm; cases (admitted_of_failed hc).symm.trans hadm
  · rw [h] at hadm; cases hv : x.vmErr <;> simp [committedOut, hv, admitted] at hadm

theorem stepEth_of_admitted {s : BState} {t : EthTx} {x : Exec} (hadm : admitted (stepEth s t x).2.cls = true) :
    anteReject s t = none ∧
    ((∃ c gu, failed c = true ∧ stepEth s t x = failedOut s t c gu) ∨ stepEth s t x = committedOut s t x) := by
  rcases stepEth_outcome s t x with ⟨c, gw, gu, hc, h⟩ | ⟨hr, h⟩ | ⟨hr, h⟩
  · rw [h] at hadm; cases hc.symm.trans hadm
  · exact ⟨hr, .inl h⟩
  · exact ⟨hr, .inr h⟩

theorem stepEth_of_committed {s : BState} {t : EthTx} {x : Exec}
    (hc : (stepEth s t x).2.cls = .ok ∨ (stepEth s t x).2.cls = .vmerr) : stepEth s t x = committedOut s t x := by
  rcases stepEth_outcome s t x with ⟨c, gw, gu, hn, h⟩ | ⟨-, c, gu, hf, h⟩ | ⟨-, h⟩
  · rw [h] at hc; obtain rfl | rfl : c = .ok ∨ c = .vmerr := hc <;> cases hn
  · rw [h] at hc; obtain rfl | rfl : c = .ok ∨ c = .vmerr := hc <;> cases hf
  · exact h

theorem gasUsed_le (x : Exec) : x.gasUsed ≤ x.gasBefore := Nat.sub_le _ _

/-- fee and refund pass between the sender and the fee collector only: together the two lose exactly the value that
left the sender — nothing, when it went to the sender's own wallet.  Holds whatever gas the interpreter reports. -/
theorem dSender_add_dCollector (s : BState) (t : EthTx) (x : Exec) :
    (stepEth s t x).2.dSender + (stepEth s t x).2.dCollector =
      -(((if t.toWallet = some t.sender then 0 else valueMoved t x (stepEth s t x).2.cls) : Nat) : Int) := by
  rcases stepEth_outcome s t x with ⟨c, gw, gu, hc, h⟩ | ⟨-, c, gu, hc, h⟩ | ⟨-, h⟩ <;> rw [h]
  · simp [noOut, valueMoved_of_ne_ok (ne_ok_of_not_admitted hc)]
  · simp only [failedOut, noOut, valueMoved_of_ne_ok (ne_ok_of_failed hc), ite_self]
    omega
  · -- fee and refund cancel; the value is a single unknown whether or not the VM failed
    simp only [committedOut, valueMoved_committed]
    generalize (if x.vmErr = true then 0 else t.value) = moved
    split <;> omega

/-! ## Histories -/

inductive Item where
  | tx (t : EthTx) (x : Exec)
  | newBlock (baseFee : Nat) (maxGas : Int) (minRaw : Nat)   -- balances and sequences persist; per-block bookkeeping resets

def stepItem (s : BState) : Item → BState × Option (EthTx × TxOut)
  | .tx t x => ((stepEth s t x).1, some (t, (stepEth s t x).2))
  | .newBlock b m r => ({ s with baseFee := b, maxGas := m, minRaw := r, blockGas := 0, txCount := 0, gasSlots := [], logSlots := [] }, none)

def runItems (s : BState) : List Item → BState × List (EthTx × TxOut)
  | [] => (s, [])
  | i :: is =>
    let r := stepItem s i
    let rest := runItems r.1 is
    (rest.1, match r.2 with | some o => o :: rest.2 | none => rest.2)

theorem runItems_append (s : BState) (a b : List Item) :
    runItems s (a ++ b) = ((runItems (runItems s a).1 b).1, (runItems s a).2 ++ (runItems (runItems s a).1 b).2) := by
  induction a generalizing s with
  | nil => simp [runItems]
  | cons i is ih =>
    simp only [List.cons_append, runItems]
    rw [ih]
    cases (stepItem s i).2 <;> simp

end Evermint.Block
