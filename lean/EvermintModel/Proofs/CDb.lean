import EvermintModel.Model.CDbGeneric
/-! Helper lemmas for the snapshot stack (used by Properties/C03, C08). -/
namespace Evermint.CDbG
variable {W J : Type}

/-- ids from the bottom are −1, 0, 1, … : on a top-first list, the head's id is `tail.length − 1`. -/
def IdsOk : List (Snap W J) → Prop
  | [] => True
  | x :: xs => x.id = (xs.length : Int) - 1 ∧ IdsOk xs

theorem IdsOk.tail {x : Snap W J} {xs : List (Snap W J)} (h : IdsOk (x :: xs)) : IdsOk xs := h.2

theorem IdsOk.suffix (pre l : List (Snap W J)) (h : IdsOk (pre ++ l)) : IdsOk l := by
  induction pre with
  | nil => exact h
  | cons _ _ ih => exact ih h.2

theorem ids_head {x : Snap W J} {xs : List (Snap W J)} (h : IdsOk (x :: xs)) : x.id = (xs.length : Int) - 1 := h.1

def CDb.stack (s : CDb W J) : List (Snap W J) := s.top :: s.below
def CDb.Ok (s : CDb W J) : Prop := IdsOk s.stack

theorem new_ok (w : W) (j : J) : (new w j).Ok := ⟨rfl, trivial⟩

theorem upd_ok (s : CDb W J) (h : W → J → W × J) (hs : s.Ok) : (s.upd h).Ok := hs

theorem snapshot_ok (s : CDb W J) (hs : s.Ok) : s.snapshot.1.Ok :=
  ⟨by simp [CDb.snapshot], hs⟩

theorem run_cons {s s' : CDb W J} {o : Op W J} {os : List (Op W J)} (h : s.run (o :: os) = some s') :
    ∃ s1, s.step o = some s1 ∧ s1.run os = some s' := by
  rw [CDb.run] at h
  split at h
  · cases h
  · exact ⟨_, ‹_›, h⟩

theorem revertGo_some {id : Int} {below : List (Snap W J)} {top t : Snap W J} {b' : List (Snap W J)}
    (h : revertGo id top below = some (t, b')) :
    ∃ pre t0 p rest, top :: below = pre ++ t0 :: p :: rest ∧ b' = p :: rest ∧
      t0.id = id ∧ t = { t0 with view := p.view } := by
  induction below generalizing top with
  | nil => cases h
  | cons p below ih =>
    unfold revertGo at h
    split at h
    · rename_i heq
      cases h
      exact ⟨[], top, p, below, rfl, rfl, heq, rfl⟩
    · obtain ⟨pre, t0, p', rest, h1, h2⟩ := ih h
      exact ⟨top :: pre, t0, p', rest, congrArg (top :: ·) h1, h2⟩

theorem revert_some {s s' : CDb W J} {id : Int} (h : s.revert id = some s') :
    ∃ pre t0 p rest, s.stack = pre ++ t0 :: p :: rest ∧ t0.id = id ∧
      s' = { s with top := { t0 with view := p.view }, below := p :: rest, j := t0.saved } := by
  unfold CDb.revert at h
  split at h
  · cases h
  · split at h
    · cases h
    · rename_i t b heq
      obtain ⟨pre, t0, p, rest, h1, rfl, h3, rfl⟩ := revertGo_some heq
      injection h with h
      exact ⟨pre, t0, p, rest, h1, h3, h.symm⟩

theorem revert_ok (s s' : CDb W J) (id : Int) (hs : s.Ok) (h : s.revert id = some s') : s'.Ok := by
  obtain ⟨pre, t0, p, rest, h1, _, rfl⟩ := revert_some h
  exact IdsOk.suffix pre (t0 :: p :: rest) (h1 ▸ hs)

theorem IdsOk.head_ne {x m : Snap W J} {front rest : List (Snap W J)} (h : IdsOk (x :: (front ++ m :: rest))) :
    x.id ≠ m.id := by
  rw [h.1, (IdsOk.suffix (x :: front) _ h).1]
  simp only [List.length_append, List.length_cons]; omega

theorem revertGo_skip (m : Snap W J) (rest front : List (Snap W J)) (top : Snap W J)
    (hok : IdsOk (top :: (front ++ m :: rest))) : revertGo m.id top (front ++ m :: rest) = revertGo m.id m rest := by
  induction front generalizing top with
  | nil => simp only [List.nil_append, revertGo, if_neg (IdsOk.head_ne (front := []) hok)]
  | cons y f ih =>
    simp only [List.cons_append, revertGo, if_neg hok.head_ne]
    exact ih y hok.2

theorem revertGo_self (m p : Snap W J) (b : List (Snap W J)) :
    revertGo m.id m (p :: b) = some ({ m with view := p.view }, p :: b) := by
  simp [revertGo]

/-- popping finds exactly the marked snapshot when it sits below a front of newer ones -/
theorem revertGo_frame (m p : Snap W J) (b : List (Snap W J)) :
    ∀ (front : List (Snap W J)) (top : Snap W J) (below : List (Snap W J)),
      top :: below = front ++ m :: p :: b → IdsOk (top :: below) →
      revertGo m.id top below = some ({ m with view := p.view }, p :: b) := by
  intro front top below h hok
  cases front with
  | nil => cases h; exact revertGo_self m p b
  | cons x front => cases h; exact (revertGo_skip m _ front _ hok).trans (revertGo_self m p b)

end Evermint.CDbG
