import EvermintModel.Base.GoSem
import EvermintModel.Base.Guard
/-! Lemmas about the Go semantics of `Base/GoSem.lean`, used by the tie theorems (`Facts/Tie*.lean`). -/
namespace Evermint.Go

theorem idx_zero_cons {α} (x : α) (xs : List α) : idx (x :: xs) 0 = some x := by
  simp [idx]

theorem idx_nil {α} (i : Int) : idx ([] : List α) i = none := by
  unfold idx; split <;> simp

theorem decTruncate_nat (m : Nat) : decTruncate (m : Int) = ((m / 10^18 : Nat) : Int) := by
  unfold decTruncate
  exact (Int.ofNat_tdiv m (10^18)).symm

theorem sdkInt_of_lt (x : Int) (h : x.natAbs < 2^256) : sdkInt x = some x := if_pos h
theorem sdkInt_none (x : Int) (h : 2^256 ≤ x.natAbs) : sdkInt x = none := if_neg (Nat.not_lt.mpr h)
theorem sdkInt_nat (a : Nat) (ha : a < 2^256) : sdkInt (a : Int) = some (a : Int) := sdkInt_of_lt _ ha

theorem sdkQuo_nat (a g : Nat) (hg : 0 < g) (ha : a < 2^256) :
    sdkQuo (a : Int) (g : Int) = some ((a / g : Nat) : Int) := by
  unfold sdkQuo
  have hne : (g : Int) ≠ 0 := by omega
  rw [if_neg hne, ← Int.ofNat_tdiv]
  exact sdkInt_nat _ (Nat.lt_of_le_of_lt (Nat.div_le_self _ _) ha)

theorem sdkQuo_zero (a : Int) : sdkQuo a 0 = none := by simp [sdkQuo]

theorem sdkInt64_of (x : Int) (h : bigIsInt64 x = true) : sdkInt64 x = some x := if_pos h

theorem bigDiv_nat (a b : Nat) (hb : 0 < b) : bigDiv (a : Int) (b : Int) = some ((a / b : Nat) : Int) := by
  unfold bigDiv
  have hne : (b : Int) ≠ 0 := by omega
  rw [if_neg hne]; norm_cast

theorem bigDiv_zero (a : Int) : bigDiv a 0 = none := by simp [bigDiv]

theorem usub_of_le (a b : Nat) (h : b ≤ a) (ha : a < 2^64) : usub 64 a b = a - b := by
  unfold usub
  rw [Nat.mod_eq_of_lt (Nat.lt_of_le_of_lt h ha), Nat.add_comm, Nat.add_sub_assoc h, Nat.add_mod_left,
    Nat.mod_eq_of_lt (Nat.lt_of_le_of_lt (Nat.sub_le a b) ha)]

theorem uadd_of_lt (a b : Nat) (h : a + b < 2^64) : uadd 64 a b = a + b := Nat.mod_eq_of_lt h

theorem umul_of_lt (a b : Nat) (h : a * b < 2^64) : umul 64 a b = a * b := Nat.mod_eq_of_lt h

theorem bigUint64_nat (a : Nat) (h : a < 2^64) : bigUint64 (a : Int) = a := Nat.mod_eq_of_lt h

theorem bigBitLen_le_iff (x : Int) (n : Nat) : bigBitLen x ≤ (n : Int) ↔ x.natAbs < 2^n := by
  unfold bigBitLen
  by_cases h : x = 0
  · simp [h, Nat.two_pow_pos n]
  · have hx : x.natAbs ≠ 0 := by omega
    rw [if_neg h, ← Nat.log2_lt hx]; omega

theorem bigSign_lt_zero (x : Int) : bigSign x < 0 ↔ x < 0 := by unfold bigSign; omega
theorem bigSign_eq_zero (x : Int) : bigSign x = 0 ↔ x = 0 := by unfold bigSign; omega
theorem bigCmp_lt_zero (a b : Int) : bigCmp a b < 0 ↔ a < b := by unfold bigCmp; omega
theorem bigCmp_eq_zero (a b : Int) : bigCmp a b = 0 ↔ a = b := by unfold bigCmp; omega

theorem udiv_of_ne (a : Nat) {b : Nat} (h : b ≠ 0) : udiv a b = some (a / b) := if_neg h
theorem udiv_zero (a : Nat) : udiv a 0 = none := if_pos rfl

theorem toU_lt (w : Nat) (x : Int) : toU w x < 2^w := by
  have hp : (0 : Int) < 2^w := Int.pow_pos (by decide)
  exact (Int.toNat_lt (Int.emod_nonneg x (Int.ne_of_gt hp))).mpr (by simpa using Int.emod_lt_of_pos x hp)

theorem toU_of_nonneg (w : Nat) (x : Int) (h0 : 0 ≤ x) (h : x < 2^w) : toU w x = x.toNat := by
  unfold toU; rw [Int.emod_eq_of_lt h0 h]

theorem toI_toU (x : Int) (h : -2^63 ≤ x ∧ x < 2^63) : toI 64 (toU 64 x) = x := by
  unfold toI iwrap toU; omega

theorem toU_inj (x y : Int) (hx : -2^63 ≤ x ∧ x < 2^63) (hy : -2^63 ≤ y ∧ y < 2^63) (h : toU 64 x = toU 64 y) : x = y := by
  rw [← toI_toU x hx, h, toI_toU y hy]

theorem sliceBytes_append (p a b : List Nat) :
    sliceBytes (p ++ a ++ b) (p.length : Nat) ((p.length + a.length : Nat) : Int) = some a := by
  unfold sliceBytes
  rw [if_pos (by simp only [List.length_append]; omega)]
  have : ((p.length + a.length : Nat) - (p.length : Nat) : Int).toNat = a.length := by omega
  rw [this, Int.toNat_natCast, List.append_assoc, List.drop_left, List.take_left]

theorem newCoin_of_nonneg (d : String) (a : Int) (h : 0 ≤ a) : newCoin d a = some ⟨d, a⟩ := if_neg (by omega)
theorem newCoins1_of_ne (c : Coin) (h : c.Amount ≠ 0) : newCoins1 c = [c] := if_neg h

/-- the big-endian value of a byte string: what `beToU64` computes before it truncates to 64 bits.  Byte strings of one length
compare, in the store's lexicographic byte order, as their values do (`beVal_lt_iff`) -/
def beVal (bz : List Nat) : Nat := bz.foldl (fun acc b => acc * 256 + b % 256) 0

theorem beToU64_eq (bz : List Nat) : beToU64 bz = beVal bz % 2^64 := by
  unfold beToU64 beVal; cases bz <;> rfl

theorem beToU64_lt (bz : List Nat) : beToU64 bz < 2^64 := by
  rw [beToU64_eq]; exact Nat.mod_lt _ (by decide)

theorem foldl_be_eq : ∀ (xs : List Nat) (p : Nat),
    xs.foldl (fun acc b => acc * 256 + b % 256) p = p * 256^xs.length + beVal xs
  | [], p => by simp [beVal]
  | x :: xs, p => by
    rw [beVal, List.foldl_cons, List.foldl_cons, foldl_be_eq xs, foldl_be_eq xs (0 * 256 + x % 256), List.length_cons, Nat.pow_succ]
    generalize 256^xs.length = P
    rw [Nat.add_mul, Nat.add_mul, Nat.mul_right_comm p 256 P, ← Nat.mul_assoc]
    omega

theorem beVal_append (xs ys : List Nat) : beVal (xs ++ ys) = beVal xs * 256^ys.length + beVal ys := by
  rw [beVal, List.foldl_append, foldl_be_eq ys]; rfl

theorem foldl_be_lt_iff : ∀ (xs ys : List Nat) (p q : Nat), xs.length = ys.length → (∀ x ∈ xs, x < 256) → (∀ y ∈ ys, y < 256) →
    (xs.foldl (fun acc b => acc * 256 + b % 256) p < ys.foldl (fun acc b => acc * 256 + b % 256) q ↔ p < q ∨ (p = q ∧ xs < ys))
  | [], [], p, q, _, _, _ => by simp
  | x :: xs, y :: ys, p, q, hl, hx, hy => by
    have hx0 : x < 256 := hx x (by simp)
    have hy0 : y < 256 := hy y (by simp)
    rw [List.foldl_cons, List.foldl_cons,
      foldl_be_lt_iff xs ys _ _ (by simpa using hl) (fun a h => hx a (by simp [h])) (fun a h => hy a (by simp [h])),
      List.cons_lt_cons_iff, Nat.mod_eq_of_lt hx0, Nat.mod_eq_of_lt hy0]
    have h1 : p * 256 + x < q * 256 + y ↔ p < q ∨ p = q ∧ x < y := by omega
    have h2 : p * 256 + x = q * 256 + y ↔ p = q ∧ x = y := by omega
    simp only [h1, h2, or_assoc, and_assoc, and_or_left]

theorem beVal_lt_iff (xs ys : List Nat) (hl : xs.length = ys.length) (hx : ∀ x ∈ xs, x < 256) (hy : ∀ y ∈ ys, y < 256) :
    beVal xs < beVal ys ↔ xs < ys := by
  unfold beVal; rw [foldl_be_lt_iff xs ys 0 0 hl hx hy]; simp

theorem foldl_be_digits (n : Nat) : ∀ (k a : Nat),
    ((List.range k).map fun i => n / 256^(k - 1 - i) % 256).foldl (fun acc b => acc * 256 + b % 256) a = a * 256^k + n % 256^k := by
  intro k
  induction k with
  | zero => intro a; simp [Nat.mod_one]
  | succ k ih =>
    intro a
    have hd : ∀ i, k + 1 - 1 - (i + 1) = k - 1 - i := by omega
    rw [List.range_succ_eq_map, List.map_cons, List.map_map, List.foldl_cons]
    simp only [Function.comp_def, hd, ih, Nat.mod_mod]
    rw [Nat.pow_succ, Nat.mod_mul (x := n), Nat.add_sub_cancel, Nat.sub_zero, ← Nat.mul_assoc]
    generalize 256^k = P
    generalize n / P % 256 = d
    rw [Nat.add_mul, Nat.mul_right_comm a 256 P, Nat.mul_comm d P]
    omega

theorem u64ToBe_length (n : Nat) : (u64ToBe n).length = 8 := by simp [u64ToBe]

theorem u64ToBe_byte (n b : Nat) (h : b ∈ u64ToBe n) : b < 256 := by
  obtain ⟨i, -, rfl⟩ := List.mem_map.mp h
  exact Nat.mod_lt _ (by decide)

theorem beVal_u64ToBe (n : Nat) : beVal (u64ToBe n) = n % 2^64 :=
  (foldl_be_digits n 8 0).trans (by simp)

/-- the generated `!(err).isNone` reads `err ≠ nil` -/
theorem isNone_eq_false {α : Type} {o : Option α} : o.isNone = false ↔ ¬ o = none := by cases o <;> simp

/-- Go before 1.21 has no `max` for integers: `if a < b { a = b; label = … }` is how the code spells it, here on a
(value, label) pair -/
theorem ite_lt_pair {β} (a b : Int) (s t : β) : (if a < b then (b, s) else (a, t)) = (max a b, if a < b then s else t) := by
  split <;> simp <;> omega

/-- a translated `for range` loop (`f`, by recursion on the remaining elements, `ix` the index) that leaves from inside the body
at the first element `m` satisfying `p`, with `r m`, and with `k` after the last element -/
theorem range_find {α γ : Type} {p : α → Bool} {r : α → γ} {k : γ} {f : List α → Int → γ}
    (hnil : ∀ ix, f [] ix = k) (hcons : ∀ m it ix, f (m :: it) ix = if p m then r m else f it (ix + 1)) :
    ∀ ms ix, f ms ix = (ms.find? p).elim k r
  | [], ix => hnil ix
  | m :: it, ix => by rw [hcons, range_find hnil hcons it, List.find?_cons]; cases p m <;> rfl

theorem range_any {α β : Type} {p : α → Bool} {r k : β} {f : List α → Int → Option β}
    (hnil : ∀ ix, f [] ix = some k) (hcons : ∀ m it ix, f (m :: it) ix = if p m then some r else f it (ix + 1)) :
    ∀ ms ix, f ms ix = some (if ms.any p then r else k) := fun ms ix => by
  rw [range_find (r := fun _ => some r) hnil hcons, ← List.isSome_find?]
  cases ms.find? p <;> rfl

end Evermint.Go
