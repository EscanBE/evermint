import EvermintModel.Base.KMap
/-! Tiny executable finite maps with a default (absent = default), keyed by `Nat`. -/
namespace Evermint

structure FMap (V : Type) where
  l : List (Nat × V)
  d : V

namespace FMap
variable {V : Type}

def empty (d : V) : FMap V := ⟨[], d⟩

def get (m : FMap V) (k : Nat) : V :=
  match m.l.find? (fun p => p.1 == k) with
  | some p => p.2
  | none => m.d

def set (m : FMap V) (k : Nat) (v : V) : FMap V :=
  ⟨(k, v) :: m.l.filter (fun p => p.1 != k), m.d⟩

/-- remove all entries whose key satisfies `p` (they read as default afterwards) -/
def eraseIf (m : FMap V) (p : Nat → Bool) : FMap V :=
  ⟨m.l.filter (fun e => !p e.1), m.d⟩

def keys (m : FMap V) : List Nat := m.l.map (·.1)

/-- `==` on `Nat` is `decide (· = ·)` by definition, so an `FMap` is a `KMap Nat` with the same `get` and
`set`; the lemmas are those of `KMap` -/
def toK (m : FMap V) : KMap Nat V := ⟨m.l, m.d⟩

theorem get_toK (m : FMap V) (k : Nat) : m.toK.get k = m.get k := by
  unfold get KMap.get toK
  cases List.find? (fun p => p.1 == k) m.l <;> rfl

theorem get_set (m : FMap V) (k k' : Nat) (v : V) : (m.set k v).get k' = if k' = k then v else m.get k' := by
  rw [← get_toK, ← get_toK]; exact KMap.get_set m.toK k k' v

@[simp] theorem get_set_eq (m : FMap V) (k : Nat) (v : V) : (m.set k v).get k = v := by
  rw [get_set, if_pos rfl]

@[simp] theorem get_set_ne (m : FMap V) (k k' : Nat) (v : V) (h : k' ≠ k) : (m.set k v).get k' = m.get k' := by
  rw [get_set, if_neg h]

end FMap

/-- sorted insert into a duplicate-free sorted list (canonical set representation) -/
def setInsert (a : Nat) : List Nat → List Nat
  | [] => [a]
  | x :: xs => if a < x then a :: x :: xs else if a = x then x :: xs else x :: setInsert a xs

end Evermint
