/-!
Chains of guards — `if c₁ then some e₁ else if c₂ then some e₂ else … none` — are how the models (`Block.anteReject`,
`Ante.ethLane`, …) and the definitions translated from Go (early returns of an error) decide.  These lemmas walk such a chain
one guard at a time, so that no proof case-splits a whole chain.
-/
namespace Evermint

theorem ite_some_eq_none {α : Type} {c : Prop} [Decidable c] {a : α} {k : Option α} :
    (if c then some a else k) = none ↔ ¬ c ∧ k = none := by
  split <;> simp [*]

theorem ite_else_some_eq_none {α : Type} {c : Prop} [Decidable c] {a : α} {k : Option α} :
    (if c then k else some a) = none ↔ c ∧ k = none := by
  split <;> simp [*]

theorem getD_ite_some {α : Type} {c : Prop} [Decidable c] {r z : α} {k : Option α} :
    (if c then some r else k).getD z = if c then r else k.getD z := by
  split <;> rfl

/-- one step along a chain that ended in `r`; far cheaper than `split at h`, which re-simplifies the whole chain at every step -/
theorem of_ite_eq {α} {c : Prop} [Decidable c] {a b r : α} (h : (if c then a else b) = r) : c ∧ a = r ∨ ¬c ∧ b = r := by
  by_cases hc : c
  · exact .inl ⟨hc, by rwa [if_pos hc] at h⟩
  · exact .inr ⟨hc, by rwa [if_neg hc] at h⟩

end Evermint
