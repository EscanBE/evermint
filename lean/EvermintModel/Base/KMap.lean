/-! Executable finite maps with a default, keyed by any type with decidable equality
(pairs / triples of ids). `get` after `set` behaves like function update. -/
namespace Evermint

structure KMap (K V : Type) where
  l : List (K × V)
  d : V

namespace KMap
variable {K V : Type} [DecidableEq K]

def empty (d : V) : KMap K V := ⟨[], d⟩

def get (m : KMap K V) (k : K) : V :=
  match m.l.find? (fun p => decide (p.1 = k)) with
  | some p => p.2
  | none => m.d

def set (m : KMap K V) (k : K) (v : V) : KMap K V :=
  ⟨(k, v) :: m.l.filter (fun p => !decide (p.1 = k)), m.d⟩

def keys (m : KMap K V) : List K := m.l.map (·.1)

@[simp] theorem get_empty (d : V) (k : K) : (empty d : KMap K V).get k = d := rfl

theorem get_set (m : KMap K V) (k k' : K) (v : V) : (m.set k v).get k' = if k' = k then v else m.get k' := by
  unfold get set
  by_cases h : k' = k
  · simp [h]
  · -- the filter drops only entries that the search for `k'` passes over
    simp only [List.find?_cons, decide_eq_false (Ne.symm h), List.find?_filter, if_neg h]
    congr; funext p
    by_cases hp : p.1 = k' <;> simp [hp, h]

@[simp] theorem get_set_eq (m : KMap K V) (k : K) (v : V) : (m.set k v).get k = v := by
  rw [get_set, if_pos rfl]

@[simp] theorem get_set_ne (m : KMap K V) (k k' : K) (v : V) (h : k' ≠ k) : (m.set k v).get k' = m.get k' := by
  rw [get_set, if_neg h]

end KMap
end Evermint
