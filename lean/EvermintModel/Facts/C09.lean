import EvermintModel.Facts.Gen
import EvermintModel.Model.FeeMarket
/-! Fact obligations for C09: the model's parameters equal what /repo and the fork say *now*. -/
namespace Evermint.Facts.C09
open Evermint.Facts Evermint.FeeMarket

theorem fact_elasticity : Gen.elasticityMultiplier = londonConsts.elasticity := rfl
theorem fact_changeDenom : Gen.baseFeeChangeDenominator = londonConsts.changeDenom := rfl

/-- every fork block is forced to 0 by `validateBlock`, so London (and `CalcBaseFee`'s real
branch) is active at every height -/
theorem fact_london_always : Gen.validateBlockCond = "block == nil || !block.IsZero()" := rfl

/-- the fee market end-blocker runs after every module that consumes block gas (evm) -/
theorem fact_feemarket_endblock_last :
    (Gen.endBlockers.idxOf "evm" < Gen.endBlockers.idxOf "feemarket") ∧
    Gen.endBlockers.idxOf "feemarket" < Gen.endBlockers.length := by decide

/-- … and after every end-blocker that can execute messages or change parameters (crisis, gov — which
runs passed proposals, e.g. a fee-market `MsgUpdateParams` raising the minimum gas price — and staking):
the base fee written for the next block is computed from, and clamped by, the final parameters -/
theorem fact_feemarket_after_gov : Gen.endBlockers.take 5 = ["crisis", "gov", "staking", "evm", "feemarket"] := by decide

/-- `MaxGas > 0` is the only condition under which a finite gas limit is used (model: `gasLimitOf`) -/
theorem fact_maxgas_guard : Gen.calculateBaseFeeMaxGasConds = ["consParams.Block.MaxGas > 0"] := rfl

/-- the guards of `CalculateBaseFee`, in order: finite gas limit only for `MaxGas > 0`; **the zero-target guard is
on the gas target** (limit / elasticity), not on the limit — `MaxGas = 1` has target 0 and must keep the base fee
(model: `calcBaseFee` returns the current fee when `L / elasticity = 0`; `C09_total_no_divzero`); saturation at 256 bits -/
theorem fact_basefee_guards :
    Gen.calculateBaseFeeGuards =
      ["consParams.Block!=nil&&consParams.Block.MaxGas>0",
       "gasLimit.Uint64()/ethparams.ElasticityMultiplier==0",
       "nextBaseFee.BitLen()>sdkmath.MaxBitLen"] := rfl

/-- **one base fee**: the EVM keeper returns the fee market's stored base fee unmodified, and the fee market returns the
parameter itself — so the ante handler (charge), the message server (refund) and the EVM configuration (effective price
of the receipt) price a transaction with one and the same number (`C05_one_price` assumes exactly that) -/
theorem fact_one_base_fee :
    Gen.evmGetBaseFeeReturns = ["k.feeMarketKeeper.GetBaseFee(ctx)"] ∧
    Gen.feemarketGetBaseFeeReturns = ["k.GetParams(ctx).BaseFee"] := ⟨rfl, rfl⟩

end Evermint.Facts.C09
