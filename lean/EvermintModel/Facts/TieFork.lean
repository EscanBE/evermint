import EvermintModel.Facts.GenCode
import EvermintModel.Base.GoSemLemmas
/-!
Tie theorems for C12: the dispatcher of custom precompiled contracts in the pinned go-ethereum fork
(`core/vm/contracts_evermint.go`: `CustomPrecompiledContract.RunCustom`, `CustomPrecompiledContractMethod.Validate`), **as
translated from the source in the module cache on this run**.  The dispatcher runs the *first* method whose four-byte signature
equals the first four bytes of the input (`dispatch`); whether a state-changing method runs depends on nothing but the
`readOnly` *argument* — the interpreter's inherited read-only state never enters (finding F6: the call sites pass the literal
`false` for CALL, CALLCODE and DELEGATECALL — `fact_fork_readonly_literals`).
-/
namespace Evermint.Facts.TieFork
open Evermint Evermint.GenCode

abbrev M := vm_CustomPrecompiledContractMethod

def dispatch (ms : List M) (sig : List Nat) : Option M := ms.find? (fun m => decide (m.Method4BytesSignatures = sig))

theorem range_spec (s : vm_CustomPrecompiledContract) (caller : vm_ContractRef) (input : List Nat) (ro : Bool) (evm : vm_EVM) (sig : List Nat) :
    ∀ (ms : List M) (ix : Int),
    vm_CustomPrecompiledContract_RunCustom.range1 ms ix s caller input ro evm sig =
      some (match dispatch ms sig with
            | none => ([], some "ErrExecutionReverted")
            | some m => if ro && !m.ReadOnly then ([], some "ErrWriteProtection") else m.Executor_Execute_caller_s_address_evm input) := by
  intro ms ix
  rw [Go.range_find (f := fun ms ix => vm_CustomPrecompiledContract_RunCustom.range1 ms ix s caller input ro evm sig)
    (fun _ => rfl) (fun _ _ _ => rfl), dispatch]
  cases ms.find? _ with
  | none => rfl
  | some m => dsimp only [Option.elim]; split <;> rfl

theorem tie_run_custom (s : vm_CustomPrecompiledContract) (caller : vm_ContractRef) (input : List Nat) (ro : Bool) (evm : vm_EVM)
    (hlen : 4 ≤ input.length) :
    vm_CustomPrecompiledContract_RunCustom s caller input ro evm =
      some (match dispatch s.methods (input.take 4) with
            | none => ([], some "ErrExecutionReverted")
            | some m => if ro && !m.ReadOnly then ([], some "ErrWriteProtection") else m.Executor_Execute_caller_s_address_evm input) := by
  unfold vm_CustomPrecompiledContract_RunCustom Go.sliceBytes
  have : (0 : Int) ≤ 0 ∧ (0 : Int) ≤ 4 ∧ (4 : Int) ≤ (input.length : Int) := by omega
  simp only [this, and_self, if_true]
  have h4 : ((4 : Int) - 0).toNat = 4 := by decide
  simp only [Int.toNat_zero, List.drop_zero, h4]
  exact range_spec _ _ _ _ _ _ _ _

/-- an input shorter than a selector makes `input[:4]` panic: the caller must not let it through (the fork's
`RunPrecompiledContract` path refuses such input before; E-crash sends truncated calldata on every run) -/
theorem tie_run_custom_short_input_panics (s : vm_CustomPrecompiledContract) (caller : vm_ContractRef) (input : List Nat) (ro : Bool)
    (evm : vm_EVM) (hlen : input.length < 4) : vm_CustomPrecompiledContract_RunCustom s caller input ro evm = none := by
  unfold vm_CustomPrecompiledContract_RunCustom Go.sliceBytes
  have : ¬ ((4 : Int) ≤ (input.length : Int)) := by omega
  simp [this]

/-- **a state-changing method reached with `readOnly = true` is refused, and its executor is not called**: the result does not
depend on what the executor would have answered (`C12_direct_static_refused`, on the code) -/
theorem tie_static_write_refused (s : vm_CustomPrecompiledContract) (caller : vm_ContractRef) (input : List Nat) (evm : vm_EVM) (m : M)
    (hlen : 4 ≤ input.length) (hm : dispatch s.methods (input.take 4) = some m) (hw : m.ReadOnly = false) :
    vm_CustomPrecompiledContract_RunCustom s caller input true evm = some ([], some "ErrWriteProtection") := by
  rw [tie_run_custom _ _ _ _ _ hlen, hm]; simp [hw]

/-- **the refusal is decided by the `readOnly` argument alone**: with `false` every method runs, declared read-only or not (F6) -/
theorem tie_readonly_flag_is_the_argument (s : vm_CustomPrecompiledContract) (caller : vm_ContractRef) (input : List Nat) (evm : vm_EVM) (m : M)
    (hlen : 4 ≤ input.length) (hm : dispatch s.methods (input.take 4) = some m) :
    vm_CustomPrecompiledContract_RunCustom s caller input false evm = some (m.Executor_Execute_caller_s_address_evm input) := by
  rw [tie_run_custom _ _ _ _ _ hlen, hm]; simp

/-- **`Validate`** (run for every method when the EVM is built): four-byte signature, an executor, and a non-zero gas requirement
for every method that is not read-only -/
theorem tie_method_validate (m : M) (h : vm_CustomPrecompiledContractMethod_Validate m = some none) :
    m.Method4BytesSignatures.length = 4 ∧ m.Executor_isNil = false ∧ (m.ReadOnly = false → m.RequireGas ≠ 0) := by
  -- every refusal carries an error text; the executor test (join point `k1`) ends both branches
  have hk : vm_CustomPrecompiledContractMethod_Validate.k1 m = some none → m.Executor_isNil = false := by
    intro hk
    rcases of_ite_eq hk with ⟨-, hk⟩ | ⟨he, -⟩; · cases hk
    simpa using he
  rcases of_ite_eq h with ⟨-, h⟩ | ⟨hl, h⟩; · cases h
  refine ⟨by simp at hl; omega, ?_⟩
  rcases of_ite_eq h with ⟨hr, h⟩ | ⟨-, h⟩
  · exact ⟨hk h, by simp [hr]⟩
  rcases of_ite_eq h with ⟨-, h⟩ | ⟨hg, h⟩; · cases h
  exact ⟨hk h, fun _ => by simpa using hg⟩

end Evermint.Facts.TieFork
