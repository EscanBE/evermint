import EvermintModel.Facts.GenCode
import EvermintModel.Base.GoSemLemmas
import EvermintModel.Model.Erc20
/-!
Tie theorem for C10: `spendAllowance` of the ERC-20 precompile, **as translated from the Go source on this run**, against
`Erc20.spendAllowance` (the function `C10_allowance_*` are about): an unlimited allowance is left alone, an insufficient
one refuses without writing, any other is rewritten to exactly `current − amount` — and the accessor the Go code reads and
writes is named by *(owner, spender)* only: the translated code has no token in the key either (finding F5).
-/
namespace Evermint.Facts.TieErc20
open Evermint Evermint.GenCode Evermint.Erc20

/-- the precompile, as `spendAllowance` reads it: the stored allowance of (owner, spender) -/
def viewOf (s : State) (owner spender : Nat) : keeper_erc20CustomPrecompiledContractRwTransferFrom :=
  { (default : keeper_erc20CustomPrecompiledContractRwTransferFrom) with contract_keeper_GetErc20CpcAllowance_owner_spender := (s.allow.get (owner, spender) : Int) }

theorem tie_spend_allowance (s : State) (owner spender amt : Nat) (ctx : types_Context) (o sp : common_Address) :
    keeper_erc20CustomPrecompiledContractRwTransferFrom_spendAllowance (viewOf s owner spender) ctx o sp (amt : Int) =
      some (match spendAllowance s owner spender amt with
            | none => (some "ERC20InsufficientAllowance(\"%s\",%s,%s)", [])
            | some s' =>
              (none, if s.allow.get (owner, spender) = maxU256 then []
                     else [Go.Effect.mk "e.contract.keeper.SetErc20CpcAllowance_owner_spender" [(s'.allow.get (owner, spender) : Int)]])) := by
  unfold keeper_erc20CustomPrecompiledContractRwTransferFrom_spendAllowance keeper_erc20CustomPrecompiledContractRwTransferFrom_spendAllowance.k1 spendAllowance viewOf
  rw [show (115792089237316195423570985008687907853269984665640564039457584007913129639935 : Int) = ((maxU256 : Nat) : Int) from rfl]
  generalize maxU256 = M
  generalize s.allow.get (owner, spender) = cur
  simp only [Go.bigCmp_eq_zero, Go.bigCmp_lt_zero, decide_eq_true_eq, Int.natCast_inj, Int.ofNat_lt]
  by_cases h1 : cur = M
  · simp [h1]
  by_cases h2 : cur < amt
  · simp [h1, h2]
  · simp [h1, h2]; omega  -- `↑cur - ↑amt = ↑(cur - amt)`: Go's difference is the model's, as `amt ≤ cur` here

end Evermint.Facts.TieErc20
