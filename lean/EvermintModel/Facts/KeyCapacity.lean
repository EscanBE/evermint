import EvermintModel.Facts.Gen
/-! C20 (and C01): byte slices shared between the consensus goroutine and the query goroutines. -/
namespace Evermint.Facts.KeyCapacity
open Evermint.Facts

/-- no store-key prefix has spare capacity: `append(prefix, addr...)`, executed by the consensus goroutine and by every
query goroutine (`eth_getStorageAt`, `eth_call`, …) at the same time, therefore always copies and never writes into a backing
array shared between goroutines — with spare capacity a read-only query for one account could overwrite the key block
execution is about to use for another (18 prefixes examined in the compiled code) -/
theorem fact_key_prefixes_not_shared_buffers :
    Gen.keyPrefixesWithSpareCapacity = [] ∧ Gen.keyPrefixesExamined = 18 := ⟨rfl, rfl⟩

end Evermint.Facts.KeyCapacity
