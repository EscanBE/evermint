import EvermintModel.Facts.TieAnte
/-!
Tie theorems for C14: the keys of the transaction indexer (`/repo/indexer/kv_indexer.go`), **as translated from the Go source on
this run**: `TxIndexKey(height, ethTxIndex)` — the key under which the hash of the transaction at a (block, index) position is
stored — and `parseBlockNumberFromKey`, by which `LoadLastBlock` / `LoadFirstBlock` read a height back from a key.

The key is the prefix byte, eight big-endian bytes of the height, eight of the index: 17 bytes (`tie_tx_index_key`).  Read as a
base-256 numeral it is `(2·2^64 + height)·2^64 + index` (`beVal_key`), and the store's byte order on keys of one length is the
order of these numbers (`Go.beVal_lt_iff`): injectivity and the order of the keys are arithmetic on that value.
-/
namespace Evermint.Facts.TieIndexer
open Evermint Evermint.GenCode

theorem beToU64_u64ToBe (n : Nat) (h : n < 2^64) : Go.beToU64 (Go.u64ToBe n) = n := by
  rw [Go.beToU64_eq, Go.beVal_u64ToBe, Nat.mod_mod, Nat.mod_eq_of_lt h]

/-- **big-endian height bytes are ordered as the heights**: in the byte order of the key-value store the index keys of a lower
    block come first, so the first / last key under the prefix (`LoadFirstBlock` / `LoadLastBlock`) belongs to the lowest / highest indexed block -/
theorem tie_height_bytes_order (a b : Nat) (ha : a < 2^64) (hb : b < 2^64) (h : a < b) : Go.u64ToBe a < Go.u64ToBe b := by
  rw [← Go.beVal_lt_iff _ _ (by simp [Go.u64ToBe_length]) (Go.u64ToBe_byte a) (Go.u64ToBe_byte b),
    Go.beVal_u64ToBe, Go.beVal_u64ToBe, Nat.mod_eq_of_lt ha, Nat.mod_eq_of_lt hb]
  exact h

theorem tie_tx_index_key (height index : Int) :
    indexer_TxIndexKey height index = some ([2] ++ Go.u64ToBe (Go.toU 64 height) ++ Go.u64ToBe (Go.toU 64 index)) := by
  unfold indexer_TxIndexKey; rfl

theorem beVal_key (h i : Int) :
    Go.beVal ([2] ++ Go.u64ToBe (Go.toU 64 h) ++ Go.u64ToBe (Go.toU 64 i)) = (2 * 2^64 + Go.toU 64 h) * 2^64 + Go.toU 64 i := by
  rw [Go.beVal_append, Go.beVal_append, Go.beVal_u64ToBe, Go.beVal_u64ToBe, Go.u64ToBe_length, Go.u64ToBe_length,
    Nat.mod_eq_of_lt (Go.toU_lt 64 h), Nat.mod_eq_of_lt (Go.toU_lt 64 i), show (256 : Nat)^8 = 2^64 by decide,
    show Go.beVal [2] = 2 from rfl]

theorem key_byte (h i : Int) : ∀ b ∈ [2] ++ Go.u64ToBe (Go.toU 64 h) ++ Go.u64ToBe (Go.toU 64 i), b < 256 := by
  intro b hb
  simp only [List.mem_append, List.mem_singleton] at hb
  rcases hb with (rfl | hb) | hb
  · decide
  · exact Go.u64ToBe_byte _ _ hb
  · exact Go.u64ToBe_byte _ _ hb

/-- **the store's byte order on index keys is the order of (height, index)**, both as the uint64 they are written as -/
theorem key_lt_iff (h1 i1 h2 i2 : Int) :
    [2] ++ Go.u64ToBe (Go.toU 64 h1) ++ Go.u64ToBe (Go.toU 64 i1) < [2] ++ Go.u64ToBe (Go.toU 64 h2) ++ Go.u64ToBe (Go.toU 64 i2) ↔
      Go.toU 64 h1 < Go.toU 64 h2 ∨ Go.toU 64 h1 = Go.toU 64 h2 ∧ Go.toU 64 i1 < Go.toU 64 i2 := by
  rw [← Go.beVal_lt_iff _ _ (by simp [Go.u64ToBe_length]) (key_byte h1 i1) (key_byte h2 i2), beVal_key, beVal_key]
  have := Go.toU_lt 64 i1
  have := Go.toU_lt 64 i2
  omega

/-- **two (block, index) positions never share an index key**: "found by (block, index)" cannot return the transaction of another
position -/
theorem tie_tx_index_key_injective (h1 i1 h2 i2 : Int)
    (hh1 : -2^63 ≤ h1 ∧ h1 < 2^63) (hh2 : -2^63 ≤ h2 ∧ h2 < 2^63) (hi1 : -2^31 ≤ i1 ∧ i1 < 2^31) (hi2 : -2^31 ≤ i2 ∧ i2 < 2^31)
    (h : indexer_TxIndexKey h1 i1 = indexer_TxIndexKey h2 i2) : h1 = h2 ∧ i1 = i2 := by
  rw [tie_tx_index_key, tie_tx_index_key] at h
  have hv := congrArg Go.beVal (Option.some.inj h)
  rw [beVal_key, beVal_key] at hv
  -- equal numerals with digits below the base have equal digits
  have := Go.toU_lt 64 i1
  have := Go.toU_lt 64 i2
  have hd : Go.toU 64 h1 = Go.toU 64 h2 ∧ Go.toU 64 i1 = Go.toU 64 i2 := by omega
  exact ⟨Go.toU_inj _ _ hh1 hh2 hd.1, Go.toU_inj _ _ (by omega) (by omega) hd.2⟩

/-- **the height read back from an index key is the height the key was built from**: the resume point of the indexer service is a
height that was really indexed -/
theorem tie_parse_block_number_roundtrip (height index : Int) (hh : -2^63 ≤ height ∧ height < 2^63) (k : List Nat)
    (h : indexer_TxIndexKey height index = some k) : indexer_parseBlockNumberFromKey k = some (height, none) := by
  rw [tie_tx_index_key] at h
  cases h
  have hl : (([2] ++ Go.u64ToBe (Go.toU 64 height) ++ Go.u64ToBe (Go.toU 64 index)).length : Int) = 17 := by
    simp [Go.u64ToBe_length]
  have hs : Go.sliceBytes ([2] ++ Go.u64ToBe (Go.toU 64 height) ++ Go.u64ToBe (Go.toU 64 index)) 1 9
      = some (Go.u64ToBe (Go.toU 64 height)) := by
    have := Go.sliceBytes_append [2] (Go.u64ToBe (Go.toU 64 height)) (Go.u64ToBe (Go.toU 64 index))
    rwa [Go.u64ToBe_length] at this
  unfold indexer_parseBlockNumberFromKey
  simp only [hl, decide_true, Bool.not_true, Bool.false_eq_true, if_false, hs, beToU64_u64ToBe _ (Go.toU_lt 64 height),
    Go.toI_toU height hh]

/-- a key of another length is refused (no height is made up) -/
theorem tie_parse_block_number_refuses (k : List Nat) (h : k.length ≠ 17) :
    indexer_parseBlockNumberFromKey k = some (0, some "wrong tx index key length, expect: %d, got: %d") := by
  unfold indexer_parseBlockNumberFromKey
  have : ¬ ((k.length : Int) = 17) := by omega
  simp [this]

/-- **the index keys of a lower block come first in the byte order of the store**, whatever the indices -/
theorem tie_tx_index_key_order_height (h1 i1 h2 i2 : Int) (hh1 : 0 ≤ h1) (hlt : h1 < h2) (hh2 : h2 < 2^63) (k1 k2 : List Nat)
    (e1 : indexer_TxIndexKey h1 i1 = some k1) (e2 : indexer_TxIndexKey h2 i2 = some k2) : k1 < k2 := by
  rw [tie_tx_index_key] at e1 e2
  cases e1; cases e2
  rw [key_lt_iff, Go.toU_of_nonneg 64 h1 hh1 (by omega), Go.toU_of_nonneg 64 h2 (by omega) (by omega)]
  omega

/-- **within one block the index keys are ordered by the transaction index** -/
theorem tie_tx_index_key_order_index (h i1 i2 : Int) (hi1 : 0 ≤ i1) (hlt : i1 < i2) (hi2 : i2 < 2^31) (k1 k2 : List Nat)
    (e1 : indexer_TxIndexKey h i1 = some k1) (e2 : indexer_TxIndexKey h i2 = some k2) : k1 < k2 := by
  rw [tie_tx_index_key] at e1 e2
  cases e1; cases e2
  rw [key_lt_iff, Go.toU_of_nonneg 64 i1 hi1 (by omega), Go.toU_of_nonneg 64 i2 (by omega) (by omega)]
  omega

/-- **the indexer's filter is the ante chain's lane classifier**: `indexer.isEthTx` — by which `IndexBlock` decides whether a
    transaction of the block gets an index entry — is, as generated from today's source, `dlanteutils.IsEthereumTx`, the very
    function by which the dual-lane ante handler routes a transaction to the Ethereum lane -/
theorem tie_indexer_is_eth_tx (tx : types_Tx) : indexer_isEthTx tx = utils_IsEthereumTx tx := by
  unfold indexer_isEthTx
  cases utils_IsEthereumTx tx <;> rfl

/-- over the model's transactions: indexed ⇔ `Ante.isEthereumTx` (a single Ethereum message with exactly the Ethereum extension option) —
    a transaction executed on the Ethereum lane is never skipped by the indexer, a Cosmos-lane one never indexed; total (no panic) -/
theorem tie_indexer_filter_is_lane (t : Ante.Tx) : indexer_isEthTx (TieAnte.txView t true) = some (Ante.isEthereumTx t) := by
  rw [tie_indexer_is_eth_tx]; exact TieAnte.tie_is_ethereum_tx t

example : indexer_TxIndexKey 258 3 = some [2, 0, 0, 0, 0, 0, 0, 1, 2, 0, 0, 0, 0, 0, 0, 0, 3] := rfl

end Evermint.Facts.TieIndexer
