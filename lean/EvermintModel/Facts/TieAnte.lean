import EvermintModel.Facts.GenCode
import EvermintModel.Base.GoSemLemmas
import EvermintModel.Model.Ante
/-!
Tie theorems for C07: the lane predicates `HasSingleEthereumMessage` and `IsEthereumTx` of `/repo/app/antedl/utils/tx.go`,
**as translated from the Go source on this run** (a loop with type assertions over the message list, the extension-option
guards), equal `Ante.hasSingleEth` / `Ante.isEthereumTx` — the predicates every C07 theorem branches on.
-/
namespace Evermint.Facts.TieAnte
open Evermint Evermint.GenCode Evermint.Ante

/-- what `msgView` lets the embedded-transaction accessors answer (they are read for `.eth` only) -/
instance : Inhabited EthFields := ⟨⟨true, true, false, true, 0, 0, false, false⟩⟩

def vestingKind : Msg → Option Nat
  | .vesting k _ => some k
  | _ => none

/-- the bech32 text of a model address id (any fixed rendering: the gate only passes it on) -/
def addrStr (a : Nat) : String := toString a

def toAddr : Msg → String
  | .vesting _ to => addrStr to
  | _ => ""

/-- a model message as the Go type assertions see it; `e` : what `03_validate_basic` reads from the embedded Ethereum
transaction (meaningful for `.eth` only) -/
def msgViewE (e : EthFields) (evmTx : types_Transaction) (m : Msg) : iface_ProtoMessage_Reset_String :=
  { (default : iface_ProtoMessage_Reset_String) with
    is_evmtypes_MsgEthereumTx := m.isEth
    is_vestingtypes_MsgCreateVestingAccount := vestingKind m == some 0
    is_vestingtypes_MsgCreatePeriodicVestingAccount := vestingKind m == some 1
    is_vestingtypes_MsgCreatePermanentLockedAccount := vestingKind m == some 2
    as_vestingtypes_MsgCreateVestingAccount_ToAddress := toAddr m
    as_vestingtypes_MsgCreatePeriodicVestingAccount_ToAddress := toAddr m
    as_vestingtypes_MsgCreatePermanentLockedAccount_ToAddress := toAddr m
    as_evmtypes_MsgEthereumTx_ValidateBasic := if e.msgBasicOK then none else some "ErrInvalidMsg"
    as_evmtypes_MsgEthereumTx_AsTransaction_AsMessage_vbd_new_LatestSignerForChainID_01415ad1 :=
      fun _ => ((), if e.asMessageOK then none else some "ErrInvalidSig")
    as_evmtypes_MsgEthereumTx_AsTransaction_To_isNil := e.create
    as_evmtypes_MsgEthereumTx_AsTransaction_Protected := e.prot
    as_evmtypes_MsgEthereumTx_AsTransaction_Gas := evmTx.Gas
    as_evmtypes_MsgEthereumTx_AsTransaction_GasFeeCap := evmTx.GasFeeCap
    as_evmtypes_MsgEthereumTx_AsTransaction_GasPrice := evmTx.GasPrice
    as_evmtypes_MsgEthereumTx_AsTransaction_GasTipCap := evmTx.GasTipCap
    as_evmtypes_MsgEthereumTx_AsTransaction_Type' := evmTx.Type' }

def msgView (m : Msg) : iface_ProtoMessage_Reset_String := msgViewE default default m

@[simp] theorem msgViewE_isEth (e : EthFields) (x : types_Transaction) (m : Msg) :
    (msgViewE e x m).is_evmtypes_MsgEthereumTx = m.isEth := rfl
@[simp] theorem msgView_isEth (m : Msg) : (msgView m).is_evmtypes_MsgEthereumTx = m.isEth := rfl

def extUrl : Nat → String
  | 0 => "/ethermint.evm.v1.ExtensionOptionsEthereumTx"
  | 1 => "/ethermint.types.v1.ExtensionOptionDynamicFeeTx"
  | _ + 2 => "/foreign.ExtensionOption"

def anyView (o : Nat) : types_Any := { (default : types_Any) with GetTypeUrl := extUrl o }

/-- a model transaction as `HasSingleEthereumMessage` / `IsEthereumTx` read it (one placeholder `Any` per
non-critical option: only their number is read) -/
def txView (t : Tx) (hasExt : Bool) : types_Tx :=
  { (default : types_Tx) with GetMsgs := t.msgs.map msgView, is_authante_HasExtensionOptionsTx := hasExt, as_authante_HasExtensionOptionsTx_GetExtensionOptions := t.extOpts.map anyView, as_authante_HasExtensionOptionsTx_GetNonCriticalExtensionOptions := List.replicate t.nonCrit (default : types_Any) }

@[simp] theorem txView_GetMsgs (t : Tx) (hasExt : Bool) : (txView t hasExt).GetMsgs = t.msgs.map msgView := rfl

theorem range_spec (tx : types_Tx) : ∀ (ms : List Msg) (ix : Int) (found : Bool),
    utils_HasSingleEthereumMessage.range1 (ms.map msgView) ix tx found
      = some (match ms with
              | [] => found
              | [m] => !found && m.isEth
              | _ => false) := by
  intro ms
  induction ms with
  | nil => intro _ _; rfl
  | cons m tl ih =>
    intro ix found
    unfold utils_HasSingleEthereumMessage.range1
    simp only [List.map_cons, msgView_isEth, ih]
    cases tl with
    | nil => dsimp only; cases m.isEth <;> cases found <;> rfl
    | cons _ tl => cases tl <;> cases m.isEth <;> cases found <;> rfl

/-- `HasSingleEthereumMessage` is the model's `hasSingleEth`: exactly one message, and it is a `MsgEthereumTx` -/
theorem tie_has_single_eth (t : Tx) (hasExt : Bool) :
    utils_HasSingleEthereumMessage (txView t hasExt) = some (hasSingleEth t) := by
  unfold utils_HasSingleEthereumMessage hasSingleEth
  rw [txView_GetMsgs, range_spec]
  match t.msgs with
  | [] => rfl
  | [m] => simp
  | _ :: _ :: _ => rfl

theorem extUrl_eth : ∀ o : Nat, extUrl o = "/ethermint.evm.v1.ExtensionOptionsEthereumTx" ↔ o = 0
  | 0 | 1 | _ + 2 => by simp [extUrl]

/-- **`IsEthereumTx` is the model's `isEthereumTx`**: a single Ethereum message, no non-critical extension option, and no
critical option other than exactly one `ExtensionOptionsEthereumTx` (C07: "no foreign extension option") -/
theorem tie_is_ethereum_tx (t : Tx) :
    utils_IsEthereumTx (txView t true) = some (isEthereumTx t) := by
  unfold utils_IsEthereumTx isEthereumTx
  rw [tie_has_single_eth]
  cases hasSingleEth t
  · rfl
  simp only [txView, List.length_replicate, List.length_map, Bool.not_true, Bool.false_eq_true, if_false, Bool.true_and]
  cases t.nonCrit with
  | succ n => rfl
  | zero =>
    match t.extOpts with
    | [] => rfl
    | [o] => simp [Go.idx_zero_cons, anyView, extUrl_eth]; rfl
    | _ :: _ :: tl => simp; rw [if_neg (by omega), if_neg (by omega)]

end Evermint.Facts.TieAnte
