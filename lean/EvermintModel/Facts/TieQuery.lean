import EvermintModel.Facts.GenCode
import EvermintModel.Base.GoSemLemmas
import EvermintModel.Model.Query
/-!
Tie theorem for C08: `evmtypes.BinSearch`, **as translated from the Go source on this run** (a fuel-indexed loop over
uint64 arithmetic), computes `Query.binSearch` — the function `C08_estimate` ("a returned estimate is executable") is
about — for every callback and every pair of bounds below 2^63 (no overflow of `lo + 1` and `hi + lo`; gas limits are
far below), with the fuel `hi + 1` the translator passes.
-/
namespace Evermint.Facts.TieQuery
open Evermint Evermint.GenCode Evermint.Query

/-- the model's view of the Go callback: a consensus error ends the search, otherwise `failed?` -/
def execOf (e : Nat → Bool × Unit × Option String) : Exec :=
  fun g => if (e g).2.2.isSome then none else some (e g).1

theorem loop_eq (e : Nat → Bool × Unit × Option String) :
    ∀ fuel lo hi, hi - lo < fuel → lo < 2^63 → hi < 2^63 →
      (∀ h, binSearch (execOf e) lo hi = some h → types_BinSearch.loop1 fuel lo hi e = some (h, none)) ∧
      (binSearch (execOf e) lo hi = none → ∃ er, types_BinSearch.loop1 fuel lo hi e = some (0, some er)) := by
  intro fuel
  induction fuel with
  | zero => intro lo hi h; omega
  | succ f ih =>
    intro lo hi hd hlo hhi
    unfold types_BinSearch.loop1
    rw [binSearch]
    have e1 : Go.uadd 64 lo 1 = lo + 1 := Go.uadd_of_lt _ _ (by omega)
    have e2 : Go.uadd 64 hi lo = hi + lo := Go.uadd_of_lt _ _ (by omega)
    simp only [e1, e2]
    by_cases hc : lo + 1 < hi
    · simp only [hc, dite_true, decide_true, if_true]
      have hm : lo < (hi + lo) / 2 ∧ (hi + lo) / 2 < hi := by omega
      generalize (hi + lo) / 2 = mid at hm ⊢
      rcases hx : e mid with ⟨failed, u, err⟩
      cases err with
      | some er => simp [execOf, hx]
      | none =>
        cases failed with
        | true => simpa [execOf, hx] using ih mid hi (by omega) (by omega) hhi
        | false => simpa [execOf, hx] using ih lo mid (by omega) hlo (by omega)
    · simp [hc, types_BinSearch.k2]

/-- `BinSearch` returns the model's answer (and `(0, err)` exactly when the model gives up on a consensus error) -/
theorem tie_bin_search (e : Nat → Bool × Unit × Option String) (lo hi : Nat) (hlo : lo < 2^63) (hhi : hi < 2^63) :
    (∀ h, binSearch (execOf e) lo hi = some h → types_BinSearch lo hi e = some (h, none)) ∧
    (binSearch (execOf e) lo hi = none → ∃ er, types_BinSearch lo hi e = some (0, some er)) := by
  unfold types_BinSearch
  exact loop_eq e (hi + 1) lo hi (by omega) hlo hhi

/-- the translated loop never runs out of fuel and never panics below 2^63 -/
theorem tie_bin_search_total (e : Nat → Bool × Unit × Option String) (lo hi : Nat) (hlo : lo < 2^63) (hhi : hi < 2^63) :
    (types_BinSearch lo hi e).isSome = true := by
  have := tie_bin_search e lo hi hlo hhi
  cases hb : binSearch (execOf e) lo hi with
  | none => obtain ⟨er, h⟩ := this.2 hb; simp [h]
  | some h => simp [this.1 h hb]

end Evermint.Facts.TieQuery
