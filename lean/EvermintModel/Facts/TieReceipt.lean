import EvermintModel.Facts.GenCode
import EvermintModel.Base.GoSemLemmas
/-!
Tie theorems for C13: the transient per-block bookkeeping of `/repo/x/evm/keeper/keeper.go` — the transaction counter and
the cumulative log count from which a receipt's first log index is taken — **as translated from the Go source on this
run** (a counting loop with `continue` over store reads keyed by the transaction index).
-/
namespace Evermint.Facts.TieReceipt
open Evermint Evermint.GenCode

/-- the log count stored for the transaction with index `i` of the current block -/
def cnt (ctx : types_Context) (i : Nat) : Nat := Go.beToU64 (ctx.TransientStore_k_transientKey_Get_TxLogCountTransientKey i)

theorem cnt_def (ctx : types_Context) (i : Nat) :
    Go.beToU64 (ctx.TransientStore_k_transientKey_Get_TxLogCountTransientKey i) = cnt ctx i := rfl
-- a stored count is an atom for the proofs below; `cnt_def` folds the reads of the generated loop into it
attribute [irreducible] cnt

/-- what one iteration adds -/
def term (ctx : types_Context) (exceptCurrent : Bool) (txCount i : Nat) : Nat :=
  if exceptCurrent && decide (i = txCount - 1) then 0 else cnt ctx i

def sumFrom (f : Nat → Nat) (i k : Nat) : Nat := ((List.range' i k).map f).sum

theorem sumFrom_succ (f : Nat → Nat) (i k : Nat) : sumFrom f i (k + 1) = f i + sumFrom f (i + 1) k := by
  simp [sumFrom, List.range'_succ]

theorem loop_spec (k : keeper_Keeper) (ctx : types_Context) (ec : Bool) (txCount : Nat) (htc : 0 < txCount ∧ txCount < 2^64) :
    ∀ fuel i total, txCount - i < fuel → i ≤ txCount →
      total + sumFrom (term ctx ec txCount) i (txCount - i) < 2^64 →
      keeper_Keeper_GetCumulativeLogCountTransient.loop1 fuel k ctx ec total txCount i
        = some (total + sumFrom (term ctx ec txCount) i (txCount - i)) := by
  intro fuel
  induction fuel with
  | zero => intro i total h; omega
  | succ f ih =>
    intro i total hf hi hsum
    unfold keeper_Keeper_GetCumulativeLogCountTransient.loop1
    by_cases hlt : i < txCount
    · -- one iteration adds `term … i`, the first summand; nothing wraps because the whole sum fits
      have hk : txCount - i = (txCount - (i + 1)) + 1 := by omega
      rw [hk, sumFrom_succ] at hsum ⊢
      simp only [hlt, decide_true, if_true, Go.usub_of_le _ _ htc.1 htc.2, Go.uadd_of_lt i 1 (by omega), cnt_def]
      by_cases hc : (ec && decide (i = txCount - 1)) = true
      · rw [show term ctx ec txCount i = 0 from if_pos hc] at hsum ⊢
        rw [if_pos hc, ih (i + 1) total (by omega) (by omega) (by omega), Nat.zero_add]
      · rw [show term ctx ec txCount i = cnt ctx i from if_neg hc] at hsum ⊢
        rw [if_neg hc, Go.uadd_of_lt _ _ (by omega), ih (i + 1) _ (by omega) (by omega) (by omega), Nat.add_assoc]
    · have : txCount - i = 0 := by omega
      simp [hlt, this, sumFrom, keeper_Keeper_GetCumulativeLogCountTransient.k2]

/-- the stored transaction counter, as `GetTxCountTransient` reports it: at least 1 -/
def txCountOf (ctx : types_Context) : Nat := max (Go.beToU64 ctx.TransientStore_k_transientKey_Get_KeyTransientTxCount) 1

theorem txCountOf_pos (ctx : types_Context) : 0 < txCountOf ctx := by unfold txCountOf; omega

theorem txCountOf_lt (ctx : types_Context) : txCountOf ctx < 2^64 := by
  have := Go.beToU64_lt ctx.TransientStore_k_transientKey_Get_KeyTransientTxCount
  unfold txCountOf; omega

theorem tie_tx_count (k : keeper_Keeper) (ctx : types_Context) :
    keeper_Keeper_GetTxCountTransient k ctx = some (txCountOf ctx) := by
  unfold keeper_Keeper_GetTxCountTransient keeper_Keeper_GetRawTxCountTransient txCountOf
  -- `if count < 1 { count = 1 }` is how the code spells the maximum
  simp only [decide_eq_true_eq]
  congr 1
  split <;> omega

/-- **C13 (log indices)**: `GetCumulativeLogCountTransient(ctx, exceptCurrent)` is the sum of the stored log counts of the
transactions `0 … txCount−1` of this block — without the last one when `exceptCurrent` — whenever that sum fits 64 bits.
With `exceptCurrent = true` this is the start log index of the current transaction: the logs of all *earlier* transactions
(`Block.committedOut`'s `sumTake s.logSlots idx`). -/
theorem tie_cumulative_log_count (k : keeper_Keeper) (ctx : types_Context) (ec : Bool)
    (hfit : sumFrom (term ctx ec (txCountOf ctx)) 0 (txCountOf ctx) < 2^64) :
    keeper_Keeper_GetCumulativeLogCountTransient k ctx ec = some (sumFrom (term ctx ec (txCountOf ctx)) 0 (txCountOf ctx)) := by
  unfold keeper_Keeper_GetCumulativeLogCountTransient
  rw [tie_tx_count]
  simpa using loop_spec k ctx ec (txCountOf ctx) ⟨txCountOf_pos ctx, txCountOf_lt ctx⟩ (txCountOf ctx + 1) 0 0
    (by omega) (by omega) (by simpa using hfit)

theorem term_except (ctx : types_Context) (n i : Nat) (hi : i < n - 1) : term ctx true n i = cnt ctx i := by
  unfold term; simp; omega
theorem term_last (ctx : types_Context) (n : Nat) : term ctx true n (n - 1) = 0 := by
  unfold term; simp
theorem term_all (ctx : types_Context) (n i : Nat) : term ctx false n i = cnt ctx i := by
  unfold term; simp

end Evermint.Facts.TieReceipt
