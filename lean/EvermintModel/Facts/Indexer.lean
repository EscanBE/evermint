import EvermintModel.Facts.Gen
/-! Fact obligations for C14. -/
namespace Evermint.Facts.Indexer
open Evermint.Facts

/-- `IndexBlock` opens one batch, stages every record through `saveTxResult` and writes once: a crash
between two database writes can only fall between two blocks -/
theorem fact_one_batch_per_block : Gen.indexBlockBatchCalls = ["kv.db.NewBatch", "saveTxResult", "batch.Write"] := rfl

/-- the restart rule of `EVMIndexerService.OnStart` as modelled by `resumeAfter`: an empty index (−1)
resumes at the node's latest height (finding F12); otherwise after the last indexed block, clamped to the
earliest block the node still has -/
theorem fact_restart_rule : Gen.indexerRestartRule =
    ["lastIndexedBlock == -*ast.BasicLit => lastIndexedBlock=latestBlock",
     "lastIndexedBlock < status.SyncInfo.EarliestBlockHeight => lastIndexedBlock=status.SyncInfo.EarliestBlockHeight",
     "lastIndexedBlock >= latestBlock => "] := rfl

end Evermint.Facts.Indexer
