import EvermintModel.Facts.Gen
import EvermintModel.Model.StakingCpc
/-!
# Facts tying `Model/StakingCpc.lean` to `/repo/x/cpc/keeper/precompiles_staking.go`  (regenerated every run)

factgen reads, for every `Execute` method of the staking precompile: the name of its caller parameter, whether
`caller.Address()` is read, the expression the delegator is taken from, the `caller.Address() != …` guard and
the arguments of `eip712.VerifySignature`; and, for every evaluation of a distribution reward query, the
context it runs on.  The expectations below are the reading the model is written from: any edit that changes
who an executor acts for, drops a guard, or verifies for another chain id breaks a named obligation.
-/
namespace Evermint.Facts.Staking
open Evermint.Facts

private def ro (recv : String) : Gen.StakingExec :=
  { recv := recv, callerParam := "_", readsCaller := false, delegatorFrom := "", callerVsDelegator := "", verifyArgs := "", verifyGuard := false }
private def rw (recv from_ : String) : Gen.StakingExec :=
  { recv := recv, callerParam := "caller", readsCaller := true, delegatorFrom := from_, callerVsDelegator := "", verifyArgs := "", verifyGuard := false }
private def signed (recv msg : String) : Gen.StakingExec :=
  { recv := recv, callerParam := "caller", readsCaller := true, delegatorFrom := msg ++ ".Delegator",
    callerVsDelegator := "caller.Address() != " ++ msg ++ ".Delegator",
    verifyArgs := "delegator|" ++ msg ++ "|env.evm.ChainConfig().ChainID", verifyGuard := true }

private def callerAcc := "sdk.AccAddress(caller.Address().Bytes())"

/-- one row per executor; the eight state-changing ones are the eight constructors of `StakingCpc.Call` -/
def expected : List Gen.StakingExec := [
  ro "stakingCustomPrecompiledContractRoBalanceOf",
  ro "stakingCustomPrecompiledContractRoDecimals",
  ro "stakingCustomPrecompiledContractRoDelegatedValidators",
  ro "stakingCustomPrecompiledContractRoDelegationOf",
  ro "stakingCustomPrecompiledContractRoName",
  ro "stakingCustomPrecompiledContractRoRewardOf",
  ro "stakingCustomPrecompiledContractRoRewardsOf",
  ro "stakingCustomPrecompiledContractRoSymbol",
  ro "stakingCustomPrecompiledContractRoTotalDelegationOf",
  rw "stakingCustomPrecompiledContractRwDelegate" callerAcc,                        -- Call.delegate
  signed "stakingCustomPrecompiledContractRwDelegateByActionMessage" "delegateMessage",   -- Call.byMessage
  rw "stakingCustomPrecompiledContractRwReDelegate" callerAcc,                      -- Call.redelegate
  rw "stakingCustomPrecompiledContractRwTransfer" "caller.Address()",               -- Call.transfer
  rw "stakingCustomPrecompiledContractRwUnDelegate" callerAcc,                      -- Call.undelegate
  rw "stakingCustomPrecompiledContractRwWithdrawReward" callerAcc,                  -- Call.withdrawReward
  rw "stakingCustomPrecompiledContractRwWithdrawRewards" callerAcc,                 -- Call.withdrawRewards
  signed "stakingCustomPrecompiledContractRwWithdrawRewardsByMessage" "withdrawRewardMessage"  -- Call.withdrawByMessage
]

/-- **who the executors act for**: view methods ignore the caller; every state-changing method takes the
delegator from `caller.Address()`; the signed variants take it from the message, refuse when it differs from
`caller.Address()`, and verify the signature against that delegator for the EVM's own chain id. -/
theorem fact_staking_executors : Gen.stakingExecutors = expected := by decide +kernel

/-- **where reward queries run**: the distribution queries close reward periods (they write); the read-only
methods evaluate them on a branch that is discarded (`CacheContext`), only the state-changing
`withdrawRewards` evaluates them on the live context. -/
theorem fact_staking_reward_queries :
    Gen.distQuerierCalls =
      [("stakingCustomPrecompiledContractRoRewardOf.Execute", "DelegationRewards", "queryCtx", "ctx.CacheContext()"),
       ("stakingCustomPrecompiledContractRoRewardsOf.getTotalRewards", "DelegationTotalRewards", "queryCtx", "ctx.CacheContext()"),
       ("stakingCustomPrecompiledContractRwWithdrawRewards.withdrawRewards", "DelegationTotalRewards", "ctx", "")] := rfl

end Evermint.Facts.Staking
