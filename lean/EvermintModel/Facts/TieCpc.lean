import EvermintModel.Facts.GenCode
import EvermintModel.Base.GoSemLemmas
/-!
Tie theorem for C17: `validateDeployer` of `/repo/x/cpc/keeper/msg_server.go` (the gate in front of both deploy messages),
**as translated from the Go source on this run**: the authority is accepted exactly when it is an element of the
whitelist stored in the module parameters — for every whitelist, in particular the empty one (nobody), and with no
fallback of any kind.
-/
namespace Evermint.Facts.TieCpc
open Evermint Evermint.GenCode

theorem range_spec (authority : String) (p : cpc_types_Params) : ∀ (ws : List String) (ix : Int),
    keeper_validateDeployer.range1 ws ix authority p = some (if authority ∈ ws then none else some "ErrInvalidSigner") := by
  intro ws ix
  rw [Go.range_any (f := fun ws ix => keeper_validateDeployer.range1 ws ix authority p) (fun _ => rfl) (fun _ _ _ => rfl)]
  simp [List.any_eq_true]

/-- **deployment is refused unless the signer is on the governance-controlled whitelist** -/
theorem tie_validate_deployer (authority : String) (p : cpc_types_Params) :
    keeper_validateDeployer authority p =
      some (if authority ∈ p.WhitelistedDeployers then none else some "ErrInvalidSigner") := by
  unfold keeper_validateDeployer; exact range_spec _ _ _ _

/-- with the default parameters (empty whitelist) nobody can deploy -/
theorem tie_empty_whitelist_refuses (authority : String) (p : cpc_types_Params) (h : p.WhitelistedDeployers = []) :
    keeper_validateDeployer authority p = some (some "ErrInvalidSigner") := by
  rw [tie_validate_deployer, h]; simp

example : keeper_validateDeployer "b" { WhitelistedDeployers := ["a", "b"] } = some none := by decide
example : keeper_validateDeployer "gov" { WhitelistedDeployers := ["a", "b"] } = some (some "ErrInvalidSigner") := rfl

end Evermint.Facts.TieCpc
