import EvermintModel.Facts.Gen
/-! Fact obligations for C02: which StateDB write primitives the pinned fork's interpreter and
`core/evm.go` use (the simulation theorems cover exactly these), the refund quotients, and how the fork
builds the custom-precompile address list (finding F11). -/
namespace Evermint.Facts.Geth
open Evermint.Facts

def setOf (l : List String) : List String := l.foldl (fun acc x => if acc.contains x then acc else acc ++ [x]) []

/-- the interpreter writes state through these StateDB methods only -/
theorem fact_fork_write_primitives :
    setOf ((Gen.forkStateWriteSites.map (·.2.2)) ++ (Gen.forkCoreEvmBalanceSites.map (·.2.2))) =
      ["CanTransfer", "CreateAccount", "Transfer", "AddBalance", "SetNonce", "SetCode", "AddRefund", "SubRefund", "SetState", "Suicide", "AddLog", "SubBalance"] := by
  decide +kernel

/-- `GetCustomPrecompiledContractsAddress` does `make([]Address, n)` (length n, not capacity) and then `append`s:
the list starts with n zero addresses, which `PrepareAccessList` warms (F11) -/
theorem fact_fork_precompile_list_zero_prefixed : Gen.forkCustomPrecompileAddrBuild = ["make/2", "append"] := rfl

theorem fact_refund_quotients : Gen.refundQuotient = 2 ∧ Gen.refundQuotientEIP3529 = 5 ∧
    Gen.refundQuotientArgs = ["params.RefundQuotient", "params.RefundQuotientEIP3529"] := ⟨rfl, rfl, rfl⟩

end Evermint.Facts.Geth
