import EvermintModel.Facts.GenCode
import EvermintModel.Base.GoSemLemmas
/-!
Tie theorems for C06: the two decorators of the Ethereum lane that authorise a transaction and consume its nonce —
`duallane/11_sig_verification` and `12_increment_sequence` — **as translated from the Go source on this run**.
-/
namespace Evermint.Facts.TieAnteSig
open Evermint Evermint.GenCode

abbrev Next := Bool → (Unit × Option String)

/-- the decision of `11_sig_verification` on an Ethereum-lane transaction: `none` = go on -/
def verdict11 (d : duallane_DLSigVerificationDecorator) (el : iface_ProtoMessage_Reset_String) : Option (Option (Option String)) :=
  if d.new_LatestSignerForChainID_ced01bc1_Sender_el_as_evmtypes_MsgEthereumTx_AsTransaction.2 ≠ none then some (some (some "ErrorInvalidSigner")) else
  if el.as_evmtypes_MsgEthereumTx_From ≠
      d.new_LatestSignerForChainID_ced01bc1_Sender_el_as_evmtypes_MsgEthereumTx_AsTransaction_res0_Bytes_as_sdk_AccAddress_String then
    some (some (some "ErrorInvalidSigner")) else
  if d.ak_GetAccount_el_as_evmtypes_MsgEthereumTx_GetFrom_isNil then some none else
  if el.as_evmtypes_MsgEthereumTx_AsTransaction_Nonce ≠ d.ak_GetAccount_el_as_evmtypes_MsgEthereumTx_GetFrom_GetSequence then
    some (some (some "ErrInvalidSequence")) else none

theorem tie_sig_verification (d : duallane_DLSigVerificationDecorator) (ctx : types_Context) (tx : types_Tx) (sim : Bool) (next : Next)
    (b : Bool) (el : iface_ProtoMessage_Reset_String) (hb : utils_HasSingleEthereumMessage tx = some b) (h0 : Go.idx tx.GetMsgs 0 = some el) :
    duallane_DLSigVerificationDecorator_AnteHandle d ctx tx sim next =
      if !b then some (d.cd_AnteHandle_tx sim next).2
      else match verdict11 d el with
           | some r => r
           | none => some (next sim).2 := by
  unfold duallane_DLSigVerificationDecorator_AnteHandle
  simp only [hb, h0]
  cases b
  · rfl
  refine Eq.trans ?_ (by cases verdict11 d el <;> rfl : (verdict11 d el).getD (some (next sim).2) = _)
  unfold verdict11
  simp only [getD_ite_some, Option.getD_none, Bool.not_true, Bool.false_eq_true, if_false, Bool.not_eq_true', decide_eq_false_iff_not,
    Go.isNone_eq_false, ne_eq]

/-- **C06 on the code**: the rest of the chain (and with it the execution) is reached only when the signature recovers — with the
signer of *this chain's* EIP-155 id — to an address whose bech32 text **is** the declared `From`, the account of `From` exists and
the transaction's nonce **equals** that account's sequence; every other case is an error (or, for a missing account, a panic) that
does not consult the continuation (`tie_sig_verification`) -/
theorem tie_sig_accepts (d : duallane_DLSigVerificationDecorator) (el : iface_ProtoMessage_Reset_String) (h : verdict11 d el = none) :
    d.new_LatestSignerForChainID_ced01bc1_Sender_el_as_evmtypes_MsgEthereumTx_AsTransaction.2 = none ∧
    el.as_evmtypes_MsgEthereumTx_From =
      d.new_LatestSignerForChainID_ced01bc1_Sender_el_as_evmtypes_MsgEthereumTx_AsTransaction_res0_Bytes_as_sdk_AccAddress_String ∧
    d.ak_GetAccount_el_as_evmtypes_MsgEthereumTx_GetFrom_isNil = false ∧
    el.as_evmtypes_MsgEthereumTx_AsTransaction_Nonce = d.ak_GetAccount_el_as_evmtypes_MsgEthereumTx_GetFrom_GetSequence := by
  unfold verdict11 at h
  simp only [ite_some_eq_none, ne_eq, Decidable.not_not, Bool.not_eq_true] at h
  exact ⟨h.1, h.2.1, h.2.2.1, h.2.2.2.1⟩

def effSetSeq (d : duallane_DLIncrementSequenceDecorator) : Go.Effect :=
  ⟨"svd.ak.GetAccount_el_as_evmtypes_MsgEthereumTx_GetFrom.SetSequence",
   [((Go.uadd 64 d.ak_GetAccount_el_as_evmtypes_MsgEthereumTx_GetFrom_GetSequence 1 : Nat) : Int)]⟩
def effSetAcc : Go.Effect := ⟨"svd.ak.SetAccount_svd_ak_GetAccount_el_as_evmtypes_MsgEthereumTx_GetFrom", []⟩
def effFlag : Go.Effect := ⟨"svd.ek.SetFlagSenderNonceIncreasedByAnteHandle", []⟩

/-- **`12_increment_sequence`**: for an Ethereum-lane transaction exactly three calls are made, in this order — the sequence of the
declared sender's account is set to *its current value + 1*, the account is stored, the "nonce increased" flag is raised — and then
the rest of the chain runs; a missing account or a failing `SetSequence` is a panic (recovered by `runTx`: nothing is written); a
transaction of the other lane is handed to the SDK decorator without any call -/
theorem tie_increment_sequence (d : duallane_DLIncrementSequenceDecorator) (ctx : types_Context) (tx : types_Tx) (sim : Bool) (next : Next)
    (b : Bool) (el : iface_ProtoMessage_Reset_String) (hb : utils_HasSingleEthereumMessage tx = some b) (h0 : Go.idx tx.GetMsgs 0 = some el) :
    duallane_DLIncrementSequenceDecorator_AnteHandle d ctx tx sim next =
      if !b then some ((d.cd_AnteHandle_tx sim next).2, [])
      else if d.ak_GetAccount_el_as_evmtypes_MsgEthereumTx_GetFrom_isNil then none
      else if d.ak_GetAccount_el_as_evmtypes_MsgEthereumTx_GetFrom_SetSequence
                (Go.uadd 64 d.ak_GetAccount_el_as_evmtypes_MsgEthereumTx_GetFrom_GetSequence 1) ≠ none then none
      else some ((next sim).2, [effSetSeq d, effSetAcc, effFlag]) := by
  unfold duallane_DLIncrementSequenceDecorator_AnteHandle effSetSeq effSetAcc effFlag
  simp only [hb, h0]
  cases b
  · rfl
  · simp only [Bool.not_true, Bool.false_eq_true, if_false, Bool.not_eq_true', Go.isNone_eq_false, ne_eq, List.nil_append, List.cons_append]

/-- the new sequence is the old one plus one (no wrap-around below 2^64 − 1) -/
theorem tie_increment_is_plus_one (seq : Nat) (h : seq + 1 < 2^64) : Go.uadd 64 seq 1 = seq + 1 := Go.uadd_of_lt _ _ h

/-- **`07_deduct_fee`**: the fee itself is deducted by the SDK decorator with the dual-lane fee checker (tied in
`Facts/TieAdmission.lean`); what this decorator adds is the "sender paid the fee in the ante handler" flag — raised exactly for
Ethereum-lane transactions, *before* the deduction — on which the state transition's refund (`tie_refund_gas`) and the burn of
the refunded fee in the message server depend (C04, C05) -/
theorem tie_deduct_fee_flag (d : duallane_DLDeductFeeDecorator) (ctx : types_Context) (tx : types_Tx) (sim : Bool) (next : Next)
    (b : Bool) (hb : utils_HasSingleEthereumMessage tx = some b) :
    duallane_DLDeductFeeDecorator_AnteHandle d ctx tx sim next =
      some ((d.cd_AnteHandle_tx sim next).2, if b then [Go.Effect.mk "dfd.ek.SetFlagSenderPaidTxFeeInAnteHandle" []] else []) := by
  unfold duallane_DLDeductFeeDecorator_AnteHandle
  simp only [hb]
  cases b <;> rfl

end Evermint.Facts.TieAnteSig
