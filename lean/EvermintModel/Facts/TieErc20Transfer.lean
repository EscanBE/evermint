import EvermintModel.Facts.GenCode
import EvermintModel.Base.GoSemLemmas
/-!
Tie theorems for C10 (and C04): the shared `transfer` helper of the ERC-20 precompile (`/repo/x/cpc/keeper/precompiles_erc20.go`) —
behind `transfer`, `transferFrom`, `burn` and `burnFrom` — **as translated from the Go source on this run**.  The bank keeper
and the StateDB are objects the translator does not interpret: their calls appear in the effect log, in call order, with the
coin amounts handed over.  `tie_erc20_transfer` is the complete decision table (`spec`), for every balance, amount, recipient kind
and bank behaviour; `Outcome` names its rows (`spec_some`), and the statements about successful and failing calls are read off row
by row.
-/
namespace Evermint.Facts.TieErc20Transfer
open Evermint Evermint.GenCode

abbrev T := keeper_erc20CustomPrecompiledContractRwTransferFrom

def coinsOf (e : T) (amount : Int) : List Go.Coin := [⟨e.contract_GetErc20Metadata_MinDenom, amount⟩]
def effToModule (amount : Int) : Go.Effect := ⟨"e.contract.keeper.bankKeeper.SendCoinsFromAccountToModule_from_Bytes", [amount]⟩
def effBurn (amount : Int) : Go.Effect := ⟨"e.contract.keeper.bankKeeper.BurnCoins", [amount]⟩
def effSend (amount : Int) : Go.Effect := ⟨"e.contract.keeper.bankKeeper.SendCoins_from_Bytes_to_Bytes", [amount]⟩
def effLog (amount : Int) : Go.Effect := ⟨"stateDB.AddLog#70cc4350", [amount]⟩
def okRet : List Nat := Go.abiBool true

/-- `differ` : from ≠ to; `toZero` : to is the zero address (the two conditions the translator leaves as inputs) -/
def spec (e : T) (differ toZero : Bool) (amount : Int) : Option (List Nat × Option String × List Go.Effect) :=
  if amount < 0 then none else
  if (e.contract_keeper_bankKeeper_GetBalance_from_Bytes e.contract_GetErc20Metadata_MinDenom).Amount < amount then
    some ([], some "ERC20InsufficientBalance(\"%s\",%s,%s)", []) else
  if amount = 0 ∨ differ = false then some (okRet, none, [effLog amount]) else
  if 2^256 ≤ amount.natAbs then none else
  if toZero then
    if e.contract_keeper_bankKeeper_SendCoinsFromAccountToModule_from_Bytes "cpc" (coinsOf e amount) ≠ none then
      some ([], some "ErrExecFailure", [effToModule amount]) else
    if e.contract_keeper_bankKeeper_BurnCoins "cpc" (coinsOf e amount) ≠ none then
      some ([], some "ErrExecFailure", [effToModule amount, effBurn amount]) else
    some (okRet, none, [effToModule amount, effBurn amount, effLog amount])
  else
    if e.contract_keeper_bankKeeper_BlockedAddr_to_Bytes then some ([], some "ERC20InvalidReceiver(\"%s\")", []) else
    if e.contract_keeper_bankKeeper_SendCoins_from_Bytes_to_Bytes (coinsOf e amount) ≠ none then
      some ([], some "ErrExecFailure", [effSend amount]) else
    some (okRet, none, [effSend amount, effLog amount])

theorem tie_erc20_transfer (e : T) (ctx : types_Context) (frm to contractAddr : common_Address) (sdb : vm_StateDB) (amount : Int) :
    keeper_erc20CustomPrecompiledContractRwTransferFrom_transfer e ctx frm to amount contractAddr sdb =
      spec e frm.cond_372f90bd to.cond_e9e23b44 amount := by
  unfold keeper_erc20CustomPrecompiledContractRwTransferFrom_transfer keeper_erc20CustomPrecompiledContractRwTransferFrom_transfer.k1
    keeper_erc20CustomPrecompiledContractRwTransferFrom_transfer.k2 spec coinsOf effToModule effBurn effSend effLog okRet
  simp only [Go.bigSign_lt_zero, Go.bigSign_eq_zero, Go.bigCmp_lt_zero]
  by_cases hneg : amount < 0
  · simp [hneg]
  simp only [hneg, decide_false, Bool.false_eq_true, if_false]
  generalize (e.contract_keeper_bankKeeper_GetBalance_from_Bytes e.contract_GetErc20Metadata_MinDenom).Amount = bal
  by_cases hb : bal < amount
  · simp [hb]
  simp only [hb, decide_false, Bool.false_eq_true, if_false]
  by_cases hz : amount = 0
  · subst hz; simp
  cases hd : frm.cond_372f90bd
  · simp [hz]
  · simp only [hz, decide_false, Bool.not_false, Bool.true_and, if_true, false_or, Bool.true_eq_false, if_false]
    by_cases hbig : amount.natAbs < 2^256
    · -- past the arithmetic the coins are built without a panic, and the generated tests `!(err).isNone` read as the `err ≠ none`
      -- of `spec`: the same chain on both sides
      simp only [Go.sdkInt_of_lt _ hbig, Go.newCoin_of_nonneg _ _ (Int.not_lt.mp hneg), Go.newCoins1_of_ne ⟨_, amount⟩ hz,
        if_neg (Nat.not_le.mpr hbig), List.map_cons, List.map_nil, List.nil_append, List.cons_append, Bool.not_eq_true',
        Go.isNone_eq_false, ne_eq]
    · simp [Go.sdkInt, hbig, Nat.le_of_not_lt hbig]

/-- the rows of `spec` other than the panics -/
inductive Outcome (amount : Int) : List Nat × Option String × List Go.Effect → Prop
  | nothingToMove : Outcome amount (okRet, none, [effLog amount])
  | sent : Outcome amount (okRet, none, [effSend amount, effLog amount])
  | burnt : Outcome amount (okRet, none, [effToModule amount, effBurn amount, effLog amount])
  | insufficient : Outcome amount ([], some "ERC20InsufficientBalance(\"%s\",%s,%s)", [])
  | blocked : Outcome amount ([], some "ERC20InvalidReceiver(\"%s\")", [])
  | toModuleFailed : Outcome amount ([], some "ErrExecFailure", [effToModule amount])
  | burnFailed : Outcome amount ([], some "ErrExecFailure", [effToModule amount, effBurn amount])
  | sendFailed : Outcome amount ([], some "ErrExecFailure", [effSend amount])

theorem spec_some {e : T} {differ toZero : Bool} {amount : Int} {r : List Nat × Option String × List Go.Effect}
    (h : spec e differ toZero amount = some r) : 0 ≤ amount ∧ Outcome amount r := by
  unfold spec at h
  rcases of_ite_eq h with ⟨-, h⟩ | ⟨hneg, h⟩; · cases h
  refine ⟨by omega, ?_⟩
  rcases of_ite_eq h with ⟨-, h⟩ | ⟨-, h⟩; · cases h; exact .insufficient
  rcases of_ite_eq h with ⟨-, h⟩ | ⟨-, h⟩; · cases h; exact .nothingToMove
  rcases of_ite_eq h with ⟨-, h⟩ | ⟨-, h⟩; · cases h
  rcases of_ite_eq h with ⟨-, h⟩ | ⟨-, h⟩
  · rcases of_ite_eq h with ⟨-, h⟩ | ⟨-, h⟩; · cases h; exact .toModuleFailed
    rcases of_ite_eq h with ⟨-, h⟩ | ⟨-, h⟩; · cases h; exact .burnFailed
    cases h; exact .burnt
  · rcases of_ite_eq h with ⟨-, h⟩ | ⟨-, h⟩; · cases h; exact .blocked
    rcases of_ite_eq h with ⟨-, h⟩ | ⟨-, h⟩; · cases h; exact .sendFailed
    cases h; exact .sent

/-- **a successful call** moved or destroyed exactly the stated amount — one `SendCoins(from, to, amount)`, or
`SendCoinsFromAccountToModule(from, amount)` followed by `BurnCoins(amount)` for the zero address, or nothing for a zero amount / a
transfer to oneself — and emitted exactly one log, after the coins had moved -/
theorem tie_erc20_transfer_ok (e : T) (ctx : types_Context) (frm to contractAddr : common_Address) (sdb : vm_StateDB) (amount : Int)
    (ret : List Nat) (eff : List Go.Effect)
    (h : keeper_erc20CustomPrecompiledContractRwTransferFrom_transfer e ctx frm to amount contractAddr sdb = some (ret, none, eff)) :
    0 ≤ amount ∧ ret = okRet ∧
    (eff = [effLog amount] ∨ eff = [effSend amount, effLog amount] ∨ eff = [effToModule amount, effBurn amount, effLog amount]) := by
  rw [tie_erc20_transfer] at h
  obtain ⟨h0, ho⟩ := spec_some h
  cases ho with
  | nothingToMove => exact ⟨h0, rfl, .inl rfl⟩
  | sent => exact ⟨h0, rfl, .inr (.inl rfl)⟩
  | burnt => exact ⟨h0, rfl, .inr (.inr rfl)⟩

/-- **a failing call emits no log**; and a recipient blocked by the bank (module accounts) / an insufficient balance are refused
before any call on the bank -/
theorem tie_erc20_transfer_fail_no_log (e : T) (ctx : types_Context) (frm to contractAddr : common_Address) (sdb : vm_StateDB) (amount : Int)
    (ret : List Nat) (err : String) (eff : List Go.Effect)
    (h : keeper_erc20CustomPrecompiledContractRwTransferFrom_transfer e ctx frm to amount contractAddr sdb = some (ret, some err, eff)) :
    effLog amount ∉ eff ∧ ((err = "ERC20InvalidReceiver(\"%s\")" ∨ err = "ERC20InsufficientBalance(\"%s\",%s,%s)") → eff = []) := by
  rw [tie_erc20_transfer] at h
  -- row by row: the log is none of the bank calls, and `ErrExecFailure` is neither of the two errors
  cases (spec_some h).2 <;> simp [effLog, effSend, effToModule, effBurn]

end Evermint.Facts.TieErc20Transfer
