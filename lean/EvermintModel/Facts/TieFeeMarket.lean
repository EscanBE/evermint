import EvermintModel.Facts.GenCode
import EvermintModel.Base.GoSemLemmas
import EvermintModel.Model.FeeMarket
/-!
Tie theorems for C09 / C20: go-ethereum's `CalcBaseFee` and evermint's `Keeper.CalculateBaseFee`, **as translated from
the Go source on this run**, equal `FeeMarket.gethCalc` / `FeeMarket.calcBaseFee`, the definitions every C09 theorem
(exact EIP-1559 step, floor clamp, totality) is about.
-/
namespace Evermint.Facts.TieFeeMarket
open Evermint Evermint.GenCode Evermint.FeeMarket

def resOpt : Res → Option Int
  | .ok v => some (v : Int)
  | _ => none

/-- go-ethereum's `CalcBaseFee` (London active, header fields in the uint64 range) is `gethCalc` with elasticity 2 and
denominator 8 — including the panic (division by zero) for a gas target of 0 -/
theorem tie_geth_calc_base_fee (cfg : params_ChainConfig) (b gasLimit gasUsed : Nat) (num : Int)
    (hL : cfg.IsLondon num = true) (hl : gasLimit < 2^64) (hu : gasUsed < 2^64) :
    misc_CalcBaseFee cfg { (default : types_Header) with BaseFee := b, GasLimit := gasLimit, GasUsed := gasUsed, Number := num }
      = (gethCalc londonConsts b gasLimit gasUsed).map (fun (n : Nat) => (n : Int)) := by
  unfold misc_CalcBaseFee gethCalc londonConsts
  simp only [hL, Bool.not_true, Bool.false_eq_true, if_false, decide_eq_true_eq]
  by_cases h1 : gasUsed = gasLimit / 2
  · simp [h1]
  by_cases h0 : gasLimit / 2 = 0
  · -- target 0: the Go code divides by zero
    simp [h0, Go.bigDiv_zero, show gasUsed > 0 by omega]
  have hpos : 0 < gasLimit / 2 := by omega
  by_cases h2 : gasUsed > gasLimit / 2
  · simp only [h1, h0, h2, if_true, if_false, Go.usub_of_le _ _ (Nat.le_of_lt h2) hu, ← Int.natCast_mul, Go.bigDiv_nat _ _ hpos,
      Go.bigDiv_nat _ 8 (by decide), Option.map_some]
    congr 1; omega
  · simp only [h1, h0, h2, if_false, Go.usub_of_le _ _ (Nat.le_of_not_gt h2) (by omega), ← Int.natCast_mul, Go.bigDiv_nat _ _ hpos,
      Go.bigDiv_nat _ 8 (by decide), Option.map_some]
    congr 1; omega

/-- saturation at 256 bits, the floor, and the final `NewIntFromBigInt` -/
theorem post_eq (n fl : Nat) :
    Go.sdkInt (max (if decide (Go.bigBitLen (n : Int) > (256 : Int)) = true then (Go.bigLsh (1 : Int) (256 : Nat)) - (1 : Int) else (n : Int)) (fl : Int))
      = resOpt (if max (min n maxInt256) fl ≤ maxInt256 then .ok (max (min n maxInt256) fl) else .panicOverflow) := by
  have hbl : Go.bigBitLen (n : Int) > 256 ↔ 2^256 ≤ n := by
    have := Go.bigBitLen_le_iff (n : Int) 256
    simp only [Int.natAbs_natCast] at this
    omega
  have key : (if decide (Go.bigBitLen (n : Int) > (256 : Int)) = true then (Go.bigLsh (1 : Int) (256 : Nat)) - (1 : Int) else (n : Int))
      = ((min n maxInt256 : Nat) : Int) := by
    simp only [decide_eq_true_eq, hbl, Go.bigLsh, maxInt256]; omega
  rw [key, show max ((min n maxInt256 : Nat) : Int) fl = ((max (min n maxInt256) fl : Nat) : Int) by omega]
  generalize max (min n maxInt256) fl = r
  unfold maxInt256
  split
  · rw [Go.sdkInt_nat _ (by omega)]; rfl
  · rw [Go.sdkInt_none _ (by simp only [Int.natAbs_natCast]; omega)]; rfl

def ctxOf (maxGas : Option Int) (consumed : Nat) (height : Int) : types_Context :=
  { (default : types_Context) with BlockGasMeter_GasConsumedToLimit := gasUsedOf maxGas consumed, BlockHeight := height, ConsensusParams_Block_MaxGas := maxGas.getD 0, ConsensusParams_Block_isNil := maxGas.isNone }

def keeperOf (b minRaw : Nat) (isLondon : Int → Bool) : feemarket_keeper_Keeper :=
  { (default : feemarket_keeper_Keeper) with GetParams_BaseFee := b, GetParams_MinGasPrice := minRaw, evmKeeper_GetChainConfig_IsLondon := isLondon }

theorem gasLimitOf_lt (maxGas : Option Int) : gasLimitOf maxGas < 2^64 := by
  unfold gasLimitOf maxUint64
  cases maxGas with
  | none => simp
  | some m => simp; split <;> omega

/-- **`Keeper.CalculateBaseFee` is `FeeMarket.calcBaseFee`** for every base fee, every consensus `MaxGas` in the int64 range
(also none / 0 / negative / 1), every meter reading and every minimum gas price: the same value, and a Go panic exactly
where the model says `panic…`.  `C09_total` (no panic for valid parameters), `C09_ge_floor_min`, `C09_increase_exact`, … are
theorems about the right-hand side. -/
theorem tie_calculate_base_fee (b minRaw consumed : Nat) (maxGas : Option Int) (height : Int) (isLondon : Int → Bool)
    (hL : isLondon height = true) (hm : ∀ m, maxGas = some m → m < 2^63)
    (hc : gasUsedOf maxGas consumed < 2^64) :
    keeper_Keeper_CalculateBaseFee (keeperOf b minRaw isLondon) (ctxOf maxGas consumed height)
      = resOpt (calcBaseFee londonConsts b maxGas consumed minRaw) := by
  unfold keeper_Keeper_CalculateBaseFee calcBaseFee keeperOf ctxOf
  have hgl : Go.bigUint64 (if ((!(maxGas.isNone)) && decide (maxGas.getD 0 > (0 : Int))) = true
        then maxGas.getD 0 else (((18446744073709551615 : Nat) : Nat) : Int)) = gasLimitOf maxGas := by
    unfold gasLimitOf maxUint64
    cases maxGas with
    | none => simp [Go.bigUint64]
    | some m =>
      have := hm m rfl
      by_cases hp : m > 0
      · simp [hp, Go.bigUint64]; omega
      · simp [hp, Go.bigUint64]
  simp only [Go.decTruncate_nat, hgl]
  have hlt := gasLimitOf_lt maxGas
  have e2 : londonConsts.elasticity = 2 := rfl
  simp only [e2]
  by_cases h0 : gasLimitOf maxGas / 2 = 0
  · simp only [h0, decide_true, if_true]
    rw [post_eq]
    generalize resOpt _ = r; cases r <;> rfl
  · simp only [h0, decide_false, Bool.false_eq_true, if_false]
    rw [tie_geth_calc_base_fee _ b _ _ height hL hlt hc]
    cases hg : gethCalc londonConsts b (gasLimitOf maxGas) (gasUsedOf maxGas consumed) with
    | none => simp [resOpt]
    | some n =>
      simp only [Option.map_some]
      rw [post_eq]
      generalize resOpt _ = r; cases r <;> rfl

/-- **`feemarket Params.Validate` refuses no base fee for its size**: a present, non-negative base fee — of any magnitude — is
accepted whenever the minimum gas price is.  `EndBlock` stores the next base fee through `SetBaseFee → SetParams → Validate` and
panics on an error: with this, the stored value of `tie_calculate_base_fee` (never negative) can always be stored (C09 totality,
C20: end-of-block processing never fails) -/
theorem tie_feemarket_params_validate (p : types_Params) (hnil : p.BaseFee_IsNil = false) (hnn : 0 ≤ p.BaseFee) :
    types_Params_Validate p = some p.MinGasPrice_call_validateMinGasPrice := by
  unfold types_Params_Validate
  have : ¬ p.BaseFee < 0 := by omega
  simp [hnil, this]

/-- and the only base fees it refuses are the absent and the negative ones -/
theorem tie_feemarket_params_validate_refuses (p : types_Params) (h : p.BaseFee_IsNil = true ∨ p.BaseFee < 0) :
    ∃ e, types_Params_Validate p = some (some e) := by
  unfold types_Params_Validate
  rcases h with h | h
  · exact ⟨"base fee cannot be nil", by simp [h]⟩
  · cases hn : p.BaseFee_IsNil
    · exact ⟨"base fee cannot be negative: %s", by simp [h]⟩
    · exact ⟨"base fee cannot be nil", by simp⟩

end Evermint.Facts.TieFeeMarket
