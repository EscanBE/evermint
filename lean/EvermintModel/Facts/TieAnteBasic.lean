import EvermintModel.Facts.TieAnte
/-!
Tie theorem for C07: `DLValidateBasicDecorator.AnteHandle` (`/repo/app/antedl/duallane/03_validate_basic.go`) — the decorator that
enforces the shape rules of an Ethereum-lane transaction — **as translated from the Go source on this run**.

`verdict03` is the decorator's decision *before* it hands over to the rest of the chain: `none` = "go on", `some r` = the fixed
result `r` (an error class, or a Go panic `none`) that does not consult the continuation.  `tie_validate_basic` proves that the
generated function is exactly `verdict03` followed by `next`; `tie_validate_basic_shape` then reads off `verdict03 = none` what C07
says, about the code.
-/
namespace Evermint.Facts.TieAnteBasic
open Evermint Evermint.GenCode Evermint.Ante Evermint.Facts.TieAnte

abbrev Next := Bool → (Unit × Option String)

/-- the Ethereum transaction inside the message, as `evmutils.EthTxFee` reads it -/
def evmTxOf (el : iface_ProtoMessage_Reset_String) : types_Transaction :=
  { Gas := el.as_evmtypes_MsgEthereumTx_AsTransaction_Gas, GasFeeCap := el.as_evmtypes_MsgEthereumTx_AsTransaction_GasFeeCap,
    GasPrice := el.as_evmtypes_MsgEthereumTx_AsTransaction_GasPrice, GasTipCap := el.as_evmtypes_MsgEthereumTx_AsTransaction_GasTipCap,
    Type' := el.as_evmtypes_MsgEthereumTx_AsTransaction_Type' }

/-- the fee coins the decorator compares the declared fee with: `NewCoins(NewCoin(evmDenom, NewIntFromBigInt(EthTxFee(tx))))`;
`none` = one of the constructors panics (fee beyond 256 bits / negative) -/
def ethFeeCoins (denom : String) (el : iface_ProtoMessage_Reset_String) : Option (List Go.Coin) :=
  match utils_EthTxFee (evmTxOf el) with
  | none => none
  | some f => match Go.sdkInt f with
    | none => none
    | some f' => match Go.newCoin denom f' with
      | none => none
      | some c => some (Go.newCoins1 c)

theorem ethFeeCoins_some {denom : String} {el : iface_ProtoMessage_Reset_String} {fee : List Go.Coin}
    (h : ethFeeCoins denom el = some fee) : ∃ c, fee = Go.newCoins1 c := by
  unfold ethFeeCoins at h
  split at h; · cases h
  split at h; · cases h
  split at h; · cases h
  exact ⟨_, (Option.some.inj h).symm⟩

/-- a guard under a name of its own: `verdict03` is a column of them, and their lemmas rewrite these guards only, not the `if`s
of the generated code -/
def guardWith {α : Type} (c : Prop) [Decidable c] (r : α) (k : Option α) : Option α := if c then some r else k

theorem guardWith_none {α : Type} (c : Prop) [Decidable c] (r : α) (k : Option α) : guardWith c r k = none ↔ ¬ c ∧ k = none :=
  ite_some_eq_none

theorem guardWith_some {α : Type} (c : Prop) [Decidable c] (r x : α) (k : Option α) (h : guardWith c r k = some x) :
    x = r ∨ k = some x :=
  (of_ite_eq h).imp (fun h => (Option.some.inj h.2).symm) (·.2)

theorem getD_guardWith {α : Type} (c : Prop) [Decidable c] (r : α) (k : Option α) (z : α) :
    (guardWith c r k).getD z = if c then r else k.getD z :=
  getD_ite_some

/-- the decision of `03_validate_basic` for a single-Ethereum-message transaction outside recheck mode -/
def verdict03 (vbd : duallane_DLValidateBasicDecorator) (tx : types_Tx) (isEthTx : Bool) (el : iface_ProtoMessage_Reset_String) :
    Option (Option (Option String)) :=
  guardWith (isEthTx = false) (some (some "ErrInvalidRequest")) <|
  guardWith (tx.as_sdk_HasValidateBasic_ValidateBasic ≠ none ∧ tx.as_sdk_HasValidateBasic_ValidateBasic ≠ some "ErrNoSignatures")
    (some tx.as_sdk_HasValidateBasic_ValidateBasic) <|
  guardWith (tx.is_protoTxProvider = false) (some (some "ErrUnknownRequest")) <|
  guardWith (tx.as_protoTxProvider_GetProtoTx_AuthInfo_SignerInfos ≠ []) (some (some "ErrInvalidRequest")) <|
  guardWith (tx.as_protoTxProvider_GetProtoTx_AuthInfo_Fee_Payer ≠ "" ∨ tx.as_protoTxProvider_GetProtoTx_AuthInfo_Fee_Granter ≠ "")
    (some (some "ErrInvalidRequest")) <|
  guardWith (tx.as_protoTxProvider_GetProtoTx_Signatures_len > 0) (some (some "ErrInvalidRequest")) <|
  guardWith (el.as_evmtypes_MsgEthereumTx_ValidateBasic ≠ none) (some el.as_evmtypes_MsgEthereumTx_ValidateBasic) <|
  guardWith ((el.as_evmtypes_MsgEthereumTx_AsTransaction_AsMessage_vbd_new_LatestSignerForChainID_01415ad1 vbd.ek_feeMarketKeeper_GetBaseFee).2 ≠ none)
    (some (some "ErrInvalidRequest")) <|
  guardWith (vbd.ek_GetParams_GetEnableCreate = false ∧ el.as_evmtypes_MsgEthereumTx_AsTransaction_To_isNil = true) (some (some "ErrCreateDisabled")) <|
  guardWith (vbd.ek_GetParams_GetEnableCall = false ∧ el.as_evmtypes_MsgEthereumTx_AsTransaction_To_isNil = false) (some (some "ErrCallDisabled")) <|
  guardWith (el.as_evmtypes_MsgEthereumTx_AsTransaction_Protected = false) (some (some "ErrNotSupported")) <|
  match ethFeeCoins vbd.ek_GetParams_GetEvmDenom el with
  | none => some none
  | some fee =>
    guardWith (Go.coinsEqual tx.as_protoTxProvider_GetProtoTx_AuthInfo_Fee_Amount fee = false) (some (some "ErrInvalidRequest")) <|
    guardWith (tx.as_protoTxProvider_GetProtoTx_AuthInfo_Fee_GasLimit ≠ el.as_evmtypes_MsgEthereumTx_AsTransaction_Gas)
      (some (some "ErrInvalidRequest")) none

theorem tie_validate_basic (vbd : duallane_DLValidateBasicDecorator) (ctx : types_Context) (tx : types_Tx) (sim : Bool) (next : Next)
    (isEthTx : Bool) (el : iface_ProtoMessage_Reset_String)
    (hre : ctx.IsReCheckTx = false) (hs : utils_HasSingleEthereumMessage tx = some true) (he : utils_IsEthereumTx tx = some isEthTx)
    (h0 : Go.idx tx.GetMsgs 0 = some el) :
    duallane_DLValidateBasicDecorator_AnteHandle vbd ctx tx sim next =
      match verdict03 vbd tx isEthTx el with
      | some r => r
      | none => some (next sim).2 := by
  -- the `match` of the statement is `getD`: the verdict, or else the answer of the rest of the chain
  refine Eq.trans ?_ (by cases verdict03 vbd tx isEthTx el <;> rfl : (verdict03 vbd tx isEthTx el).getD (some (next sim).2) = _)
  unfold duallane_DLValidateBasicDecorator_AnteHandle verdict03 ethFeeCoins
  -- both sides become the same chain of `if`s once the generated Boolean tests are read as the propositions of `verdict03`
  simp only [hre, hs, he, h0, keeper_Keeper_GetBaseFee, evmTxOf, getD_guardWith, Bool.not_eq_true', Bool.and_eq_true, Bool.or_eq_true,
    decide_eq_true_eq, decide_eq_false_iff_not, Bool.false_eq_true, if_false, Bool.not_true, ne_eq, Go.isNone_eq_false,
    gt_iff_lt, Int.natCast_pos, List.length_pos_iff]
  cases utils_EthTxFee _ with
  | none => rfl
  | some f =>
  simp only []
  cases Go.sdkInt f with
  | none => rfl
  | some f' =>
  simp only []
  cases Go.newCoin _ f' with
  | none => rfl
  | some c => simp only [getD_guardWith, Option.getD_none]

/-- **C07 on the code**: outside recheck mode, a transaction whose only message is an Ethereum message reaches the rest of the ante
chain **only if** it is a well-formed Ethereum transaction without signer infos, fee payer, fee granter or Cosmos signatures,
replay-protected, with create / call permitted by the parameters, and with declared fee and gas limit equal to those of the embedded
Ethereum transaction -/
theorem tie_validate_basic_shape (vbd : duallane_DLValidateBasicDecorator) (tx : types_Tx) (isEthTx : Bool)
    (el : iface_ProtoMessage_Reset_String) (h : verdict03 vbd tx isEthTx el = none) :
    isEthTx = true ∧
    tx.as_protoTxProvider_GetProtoTx_AuthInfo_SignerInfos = [] ∧
    tx.as_protoTxProvider_GetProtoTx_AuthInfo_Fee_Payer = "" ∧
    tx.as_protoTxProvider_GetProtoTx_AuthInfo_Fee_Granter = "" ∧
    tx.as_protoTxProvider_GetProtoTx_Signatures_len ≤ 0 ∧
    el.as_evmtypes_MsgEthereumTx_ValidateBasic = none ∧
    el.as_evmtypes_MsgEthereumTx_AsTransaction_Protected = true ∧
    (el.as_evmtypes_MsgEthereumTx_AsTransaction_To_isNil = true → vbd.ek_GetParams_GetEnableCreate = true) ∧
    (el.as_evmtypes_MsgEthereumTx_AsTransaction_To_isNil = false → vbd.ek_GetParams_GetEnableCall = true) ∧
    (∃ fee, ethFeeCoins vbd.ek_GetParams_GetEvmDenom el = some fee ∧
       Go.coinsEqual tx.as_protoTxProvider_GetProtoTx_AuthInfo_Fee_Amount fee = true) ∧
    tx.as_protoTxProvider_GetProtoTx_AuthInfo_Fee_GasLimit = el.as_evmtypes_MsgEthereumTx_AsTransaction_Gas := by
  unfold verdict03 at h
  simp only [guardWith_none] at h
  obtain ⟨h1, _, _, h2, h3, h4, h5, _, h7, h8, h9, h⟩ := h
  split at h
  · cases h
  rename_i fee hfee
  simp only [guardWith_none] at h
  simp only [ne_eq, not_or, Decidable.not_not, Bool.not_eq_false] at h1 h2 h3 h5 h9 h
  exact ⟨h1, h2, h3.1, h3.2, Int.not_lt.1 h4, h5, h9, fun hn => Bool.of_not_eq_false fun hc => h7 ⟨hc, hn⟩,
    fun hn => Bool.of_not_eq_false fun hc => h8 ⟨hc, hn⟩, ⟨fee, hfee, h.1⟩, h.2.1⟩

/-- `Coins.Equal` against the (at most one) coin of the Ethereum fee: the declared fee *is* that coin list -/
theorem coinsEqual_newCoins1 (a : List Go.Coin) (c : Go.Coin) (h : Go.coinsEqual a (Go.newCoins1 c) = true) : a = Go.newCoins1 c := by
  unfold Go.coinsEqual Go.newCoins1 at *
  by_cases hz : c.Amount = 0
  · simp only [hz, if_true, List.length_nil, Bool.and_eq_true, decide_eq_true_eq] at h ⊢
    exact List.eq_nil_of_length_eq_zero h.1
  · simp only [hz, if_false, List.length_singleton, Bool.and_eq_true, decide_eq_true_eq] at h ⊢
    obtain ⟨hl, hs⟩ := h
    match a, hl with
    | [x], _ => simpa using hs

/-- recheck mode: the decorator does nothing (the shape was checked when the transaction entered the mempool) -/
theorem tie_validate_basic_recheck (vbd : duallane_DLValidateBasicDecorator) (ctx : types_Context) (tx : types_Tx) (sim : Bool) (next : Next)
    (hre : ctx.IsReCheckTx = true) :
    duallane_DLValidateBasicDecorator_AnteHandle vbd ctx tx sim next = some (next sim).2 := by
  unfold duallane_DLValidateBasicDecorator_AnteHandle; simp [hre]

/-- the Cosmos side of `03`: a transaction that is *not* a single-Ethereum-message transaction is refused as soon as any of
its messages is a `MsgEthereumTx`; otherwise the SDK's own ValidateBasic decorator runs -/
theorem tie_validate_basic_mixed (vbd : duallane_DLValidateBasicDecorator) (ctx : types_Context) (tx : types_Tx) (sim : Bool) (next : Next)
    (hre : ctx.IsReCheckTx = false) (hs : utils_HasSingleEthereumMessage tx = some false) :
    duallane_DLValidateBasicDecorator_AnteHandle vbd ctx tx sim next =
      some (if tx.GetMsgs.any (·.is_evmtypes_MsgEthereumTx) then some "ErrLogic" else (vbd.cd_AnteHandle_tx sim next).2) := by
  unfold duallane_DLValidateBasicDecorator_AnteHandle
  simp only [hre, hs, Bool.false_eq_true, if_false, Bool.not_false, if_true]
  exact Go.range_any (f := fun ms ix => duallane_DLValidateBasicDecorator_AnteHandle.range1 ms ix vbd ctx tx sim next none)
    (fun _ => rfl) (fun _ _ _ => rfl) _ _

end Evermint.Facts.TieAnteBasic
