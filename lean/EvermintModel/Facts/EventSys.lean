import EvermintModel.Facts.Gen
import EvermintModel.Model.EventSys
/-!
# Facts tying `Model/EventSys.lean` to `/repo/rpc/namespaces/ethereum/eth/filters/filter_system.go`  (regenerated every run)

factgen lists, in source order, the lock operations on `indexMux`, the channel sends and closes, the index and
topic-table updates and the event-bus calls of `consumeEvents`, of the two cases of `eventLoop` and of the
existing-topic shortcut of `subscribe` (annotated with the `if` they sit under).  The expectations below are the
reading `EventSys.fixed` is written from.
-/
namespace Evermint.Facts.EventSys
open Evermint.Facts

/-- `lockAcrossSend = true`: the send sits between `RLock` and the final `RUnlock`; the only earlier `RUnlock`
is on the not-found path, which does not send -/
theorem fact_consume_locks_across_send :
    Gen.eventSysConsume = ["RLock", "RUnlock@if(!ok)", "Topics@if(!ok)", "send ch", "RUnlock"] := rfl

/-- install: index and (when the bus accepts the topic) record the channel, all under the write lock -/
theorem fact_install_shape :
    Gen.eventSysInstall = ["Lock", "index-assign", "AddTopic", "topicChans-assign@else", "Unlock", "close f.installed"] := rfl

/-- uninstall: the topic channel is closed only when no indexed subscription uses it, under the write lock -/
theorem fact_uninstall_shape :
    Gen.eventSysUninstall = ["Lock", "delete es.index[f.typ]", "RemoveTopic@if(!channelInUse)@if(ok)", "close ch@if(!channelInUse)@if(ok)",
      "delete es.topicChans@if(!channelInUse)@if(ok)", "Unlock", "close f.err"] := rfl

/-- `indexJoined = true`: the shortcut of `subscribe` indexes the subscription, under the write lock -/
theorem fact_join_indexes : Gen.eventSysJoin = ["Subscribe", "Lock", "index-assign", "Unlock"] := rfl

end Evermint.Facts.EventSys

namespace Evermint.Facts.EventSys
open Evermint.Facts

/-- the guards of `FilterLogs`, in order — `LogFilter.selects`: block bounds (missing / negative = none), address
list, **the length guard on all positions** (`len(topics) > len(log.Topics)`, wildcards included), then the
positional comparison `log.Topics[i] == topic` -/
theorem fact_filterlogs_guards :
    Gen.filterLogsGuards =
      ["fromBlock!=nil&&fromBlock.Int64()>=0&&fromBlock.Uint64()>log.BlockNumber",
       "toBlock!=nil&&toBlock.Int64()>=0&&toBlock.Uint64()<log.BlockNumber",
       "len(addresses)>0&&!includes(addresses,log.Address)",
       "len(topics)>len(log.Topics)",
       "log.Topics[i]==topic",
       "!match"] := rfl

/-- the event system's context (an interface value shared by the requests of all clients and the event loop) is
written under the index lock, used by nobody but the event loop — which reads it between `Lock` and `Unlock`
(`fact_uninstall_shape`) — and no method copies the struct (finding F22: `WithContext` wrote it bare while the event loop
and two value-receiver methods read it: a data race on a two-word value) -/
theorem fact_context_guarded :
    Gen.eventSysWithContext = ["Lock", "ctx-assign", "Unlock"] ∧
    Gen.eventSysValueReceivers = [] ∧
    Gen.eventSysCtxUsers = ["EventSystem.WithContext", "EventSystem.eventLoop"] := ⟨rfl, rfl, rfl⟩

end Evermint.Facts.EventSys
