import EvermintModel.Facts.TieAnte
/-!
Tie theorems for C07 / C16: the lane decorators of `/repo/app/antedl` themselves — `duallane/02_ext_opt`, `04_timeout_height`,
`05_memo`, `cosmoslane/991c_reject_eth_msgs`, `993c_vesting_msg_authorization` — **as translated from the Go source on this
run**.  An `AnteHandle` is translated as a function of the *result of the rest of the chain* (`next`) and of the wrapped SDK
decorator (`cd`): "the decorator refuses" is then the statement that its result does not consult `next` at all.
Each theorem gives the decorator's complete decision table, for every transaction, every continuation and every mode; the
corollaries over `txView` connect them to the clauses of `Ante.ethLane` / `Ante.cosmosLane` that the C07 theorems are about.
-/
namespace Evermint.Facts.TieAnteChain
open Evermint Evermint.GenCode Evermint.Ante Evermint.Facts.TieAnte

abbrev Next := Bool → (Unit × Option String)

/-- `02_ext_opt`: a transaction with a single Ethereum message goes on only if it is a well-formed Ethereum transaction (no
foreign / non-critical extension option); anything else is handed to the SDK decorator -/
theorem tie_ext_opt (d : duallane_DLExtensionOptionsDecorator) (ctx : types_Context) (tx : types_Tx) (sim : Bool) (next : Next)
    (b e : Bool) (hb : utils_HasSingleEthereumMessage tx = some b) (he : utils_IsEthereumTx tx = some e) :
    duallane_DLExtensionOptionsDecorator_AnteHandle d ctx tx sim next =
      some (if !b then (d.cd_AnteHandle_tx sim next).2 else if !e then some "ErrUnknownExtensionOptions" else (next sim).2) := by
  unfold duallane_DLExtensionOptionsDecorator_AnteHandle
  simp only [hb, he]
  cases b <;> cases e <;> rfl

/-- `04_timeout_height`: on the Ethereum lane only a zero timeout height goes on -/
theorem tie_timeout_height (d : duallane_DLTxTimeoutHeightDecorator) (ctx : types_Context) (tx : types_Tx) (sim : Bool) (next : Next)
    (b : Bool) (hb : utils_HasSingleEthereumMessage tx = some b) :
    duallane_DLTxTimeoutHeightDecorator_AnteHandle d ctx tx sim next =
      some (if !b then (d.cd_AnteHandle_tx sim next).2
            else if tx.as_protoTxProvider_GetProtoTx_Body_TimeoutHeight ≠ 0 then some "ErrInvalidRequest" else (next sim).2) := by
  unfold duallane_DLTxTimeoutHeightDecorator_AnteHandle
  simp only [hb]
  cases b
  · rfl
  · by_cases h : tx.as_protoTxProvider_GetProtoTx_Body_TimeoutHeight = 0 <;> simp [h]

/-- `05_memo`: on the Ethereum lane only an empty memo goes on -/
theorem tie_memo (d : duallane_DLValidateMemoDecorator) (ctx : types_Context) (tx : types_Tx) (sim : Bool) (next : Next)
    (b : Bool) (hb : utils_HasSingleEthereumMessage tx = some b) :
    duallane_DLValidateMemoDecorator_AnteHandle d ctx tx sim next =
      some (if !b then (d.cd_AnteHandle_tx sim next).2
            else if tx.as_protoTxProvider_GetProtoTx_Body_Memo ≠ "" then some "ErrInvalidRequest" else (next sim).2) := by
  unfold duallane_DLValidateMemoDecorator_AnteHandle
  simp only [hb]
  cases b
  · rfl
  · by_cases h : tx.as_protoTxProvider_GetProtoTx_Body_Memo = "" <;> simp [h]

/-- `991c_reject_eth_msgs`: a transaction that is not a single-Ethereum-message transaction goes on only if **none** of its
messages is a `MsgEthereumTx` -/
theorem tie_reject_eth_msgs (d : cosmoslane_CLRejectEthereumMsgsDecorator) (ctx : types_Context) (tx : types_Tx) (sim : Bool)
    (next : Next) (b : Bool) (hb : utils_HasSingleEthereumMessage tx = some b) :
    cosmoslane_CLRejectEthereumMsgsDecorator_AnteHandle d ctx tx sim next =
      some (if b then (next sim).2
            else if tx.GetMsgs.any (·.is_evmtypes_MsgEthereumTx) then some "ErrInvalidType" else (next sim).2) := by
  unfold cosmoslane_CLRejectEthereumMsgsDecorator_AnteHandle
  simp only [hb]
  cases b
  · exact Go.range_any (f := fun ms ix => cosmoslane_CLRejectEthereumMsgsDecorator_AnteHandle.range1 ms ix d ctx tx sim next none)
      (fun _ => rfl) (fun _ _ _ => rfl) _ _
  · rfl

/-- over the model's transactions: the clause `if t.msgs.any Msg.isEth then some "991c-mixed"` of `Ante.cosmosLane` -/
theorem tie_reject_eth_msgs_model (d : cosmoslane_CLRejectEthereumMsgsDecorator) (ctx : types_Context) (t : Tx) (sim : Bool) (next : Next) :
    cosmoslane_CLRejectEthereumMsgsDecorator_AnteHandle d ctx (txView t true) sim next =
      some (if hasSingleEth t then (next sim).2 else if t.msgs.any Msg.isEth then some "ErrInvalidType" else (next sim).2) := by
  rw [tie_reject_eth_msgs _ _ _ _ _ _ (tie_has_single_eth t true), txView_GetMsgs, List.any_map]
  rfl

/-- the gate over Go messages: every message that is one of the three vesting-creation kinds needs a stored proof for its
`ToAddress` -/
def goGate (hasProof : String → Bool) : List iface_ProtoMessage_Reset_String → Option String
  | [] => none
  | m :: ms =>
    if m.is_vestingtypes_MsgCreateVestingAccount then
      (if hasProof m.as_vestingtypes_MsgCreateVestingAccount_ToAddress then goGate hasProof ms else some "ErrUnauthorized")
    else if m.is_vestingtypes_MsgCreatePeriodicVestingAccount then
      (if hasProof m.as_vestingtypes_MsgCreatePeriodicVestingAccount_ToAddress then goGate hasProof ms else some "ErrUnauthorized")
    else if m.is_vestingtypes_MsgCreatePermanentLockedAccount then
      (if hasProof m.as_vestingtypes_MsgCreatePermanentLockedAccount_ToAddress then goGate hasProof ms else some "ErrUnauthorized")
    else goGate hasProof ms

theorem vesting_range (d : cosmoslane_CLVestingMessagesAuthorizationDecorator) (ctx : types_Context) (tx : types_Tx) (sim : Bool)
    (next : Next) (err : Option String) : ∀ (ms : List iface_ProtoMessage_Reset_String) (ix : Int),
    cosmoslane_CLVestingMessagesAuthorizationDecorator_AnteHandle.range1 ms ix d ctx tx sim next err =
      some (match goGate d.vak_HasProofExternalOwnedAccount_MustAccAddressFromBech32 ms with
            | some e => some e
            | none => (next sim).2)
  | [], _ => rfl
  | m :: tl, ix => by
    unfold cosmoslane_CLVestingMessagesAuthorizationDecorator_AnteHandle.range1 goGate
    simp only [vesting_range d ctx tx sim next err tl]
    -- the three type tests of the switch, then whether the target it finds has a proof
    cases m.is_vestingtypes_MsgCreateVestingAccount <;> cases m.is_vestingtypes_MsgCreatePeriodicVestingAccount <;>
      cases m.is_vestingtypes_MsgCreatePermanentLockedAccount <;> simp only [Bool.false_eq_true, if_true, if_false] <;>
      split <;> rfl

/-- **`993c_vesting_msg_authorization`**: a Cosmos-lane transaction goes on only if every vesting-creation message in it
(each of the three kinds) names a target with a stored proof of external ownership; otherwise `ErrUnauthorized`, and the rest
of the chain — hence the message handler — is never reached -/
theorem tie_vesting_gate (d : cosmoslane_CLVestingMessagesAuthorizationDecorator) (ctx : types_Context) (tx : types_Tx) (sim : Bool)
    (next : Next) (b : Bool) (hb : utils_HasSingleEthereumMessage tx = some b) :
    cosmoslane_CLVestingMessagesAuthorizationDecorator_AnteHandle d ctx tx sim next =
      some (if b then (next sim).2
            else match goGate d.vak_HasProofExternalOwnedAccount_MustAccAddressFromBech32 tx.GetMsgs with
                 | some e => some e
                 | none => (next sim).2) := by
  unfold cosmoslane_CLVestingMessagesAuthorizationDecorator_AnteHandle
  simp only [hb]
  cases b
  · exact vesting_range _ _ _ _ _ _ _ _
  · rfl

/-- **C16 on the code**: when the gate lets a transaction through, *every* vesting-creation message in it — whichever of the
three kinds, at whichever position — names a target with a stored proof -/
theorem goGate_none_all (hp : String → Bool) : ∀ (ms : List iface_ProtoMessage_Reset_String), goGate hp ms = none →
    ∀ m ∈ ms,
      (m.is_vestingtypes_MsgCreateVestingAccount = true → hp m.as_vestingtypes_MsgCreateVestingAccount_ToAddress = true) ∧
      (m.is_vestingtypes_MsgCreateVestingAccount = false → m.is_vestingtypes_MsgCreatePeriodicVestingAccount = true →
        hp m.as_vestingtypes_MsgCreatePeriodicVestingAccount_ToAddress = true) ∧
      (m.is_vestingtypes_MsgCreateVestingAccount = false → m.is_vestingtypes_MsgCreatePeriodicVestingAccount = false →
        m.is_vestingtypes_MsgCreatePermanentLockedAccount = true → hp m.as_vestingtypes_MsgCreatePermanentLockedAccount_ToAddress = true) := by
  intro ms
  induction ms with
  | nil => intro _ m hm; cases hm
  | cons x xs ih =>
    intro h
    unfold goGate at h
    -- the head's three clauses, and that the gate passed the tail: both by the switch's case analysis
    refine List.forall_mem_cons.2 ⟨?_, ih ?_⟩ <;> revert h <;>
      cases x.is_vestingtypes_MsgCreateVestingAccount <;> cases x.is_vestingtypes_MsgCreatePeriodicVestingAccount <;>
      cases x.is_vestingtypes_MsgCreatePermanentLockedAccount <;> simp +contextual [ite_else_some_eq_none]

theorem goGate_vesting (hp : String → Bool) (to : Nat) (rest : List iface_ProtoMessage_Reset_String) : ∀ k : Nat,
    goGate hp (msgView (.vesting k to) :: rest) =
      if k < 3 && !hp (addrStr to) then some "ErrUnauthorized" else goGate hp rest
  | 0 | 1 | 2 => by cases h : hp (addrStr to) <;> simp [goGate, msgView, msgViewE, vestingKind, toAddr, h]
  | _ + 3 => rfl

/-- the Go gate over the views of model messages is the model's `vestingGate` (the function `C16_gate` is about) -/
theorem goGate_model (hp : String → Bool) : ∀ (ms : List Msg),
    goGate hp (ms.map msgView) = (vestingGate (fun a => hp (addrStr a)) ms).map (fun _ => "ErrUnauthorized") := by
  intro ms
  induction ms with
  | nil => rfl
  | cons m tl ih =>
    cases m with
    | vesting k to => rw [List.map_cons, goGate_vesting, vestingGate, ih]; split <;> rfl
    | _ => exact ih

/-- over the model's transactions: the decorator refuses exactly when `Ante.vestingGate` does -/
theorem tie_vesting_gate_model (d : cosmoslane_CLVestingMessagesAuthorizationDecorator) (ctx : types_Context) (t : Tx) (sim : Bool) (next : Next) :
    cosmoslane_CLVestingMessagesAuthorizationDecorator_AnteHandle d ctx (txView t true) sim next =
      some (if hasSingleEth t then (next sim).2
            else match vestingGate (fun a => d.vak_HasProofExternalOwnedAccount_MustAccAddressFromBech32 (addrStr a)) t.msgs with
                 | some _ => some "ErrUnauthorized"
                 | none => (next sim).2) := by
  rw [tie_vesting_gate _ _ _ _ _ _ (tie_has_single_eth t true), txView_GetMsgs, goGate_model]
  cases vestingGate (fun a => d.vak_HasProofExternalOwnedAccount_MustAccAddressFromBech32 (addrStr a)) t.msgs <;> rfl

/-- non-vacuity: a periodic-vesting message for an unproven target beside a bank message is refused; with a proof it goes on -/
example : cosmoslane_CLVestingMessagesAuthorizationDecorator_AnteHandle ⟨fun _ => false⟩ default
    (txView { msgs := [.other 9, .vesting 1 7], eth := default, extOpts := [], nonCrit := 0, sigs := 1, signerInfos := 1, payer := false,
              granter := false, memo := false, timeout := 0, feeCoins := [], gasLimit := 0, txBasicOK := true } true) false
    (fun _ => ((), none)) = some (some "ErrUnauthorized") := by
  rw [tie_vesting_gate_model]; decide
example : cosmoslane_CLVestingMessagesAuthorizationDecorator_AnteHandle ⟨fun _ => true⟩ default
    (txView { msgs := [.other 9, .vesting 1 7], eth := default, extOpts := [], nonCrit := 0, sigs := 1, signerInfos := 1, payer := false,
              granter := false, memo := false, timeout := 0, feeCoins := [], gasLimit := 0, txBasicOK := true } true) false
    (fun _ => ((), none)) = some none := by
  rw [tie_vesting_gate_model]; decide

end Evermint.Facts.TieAnteChain
