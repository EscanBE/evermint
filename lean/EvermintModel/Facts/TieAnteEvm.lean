import EvermintModel.Facts.TieAnte
import EvermintModel.Facts.TieReceipt
/-!
Tie theorems for C06 / C07 / C13: the decorators that close the Ethereum lane — `evmlane/03e_validate_basic_eoa` (the sender is a
non-empty address without code), `991e_setup_exec_ctx` (execution set-up: the per-block transaction counter advances here) and
`992e_emit_event` (the `ethereum_tx` event with the transaction's index) — **as translated from the Go source on this run**.
-/
namespace Evermint.Facts.TieAnteEvm
open Evermint Evermint.GenCode Evermint.Facts.TieReceipt

abbrev Next := Bool → (Unit × Option String)

/-- `03e_validate_basic_eoa`: on the Ethereum lane the rest of the chain runs only for a transaction whose declared sender is
non-empty and has no code; Cosmos-lane transactions pass through untouched -/
theorem tie_validate_eoa (d : evmlane_ELValidateBasicEoaDecorator) (ctx : types_Context) (tx : types_Tx) (sim : Bool) (next : Next)
    (b : Bool) (el : iface_ProtoMessage_Reset_String) (hb : utils_HasSingleEthereumMessage tx = some b) (h0 : Go.idx tx.GetMsgs 0 = some el) :
    evmlane_ELValidateBasicEoaDecorator_AnteHandle d ctx tx sim next =
      some (if !b then (next sim).2
            else if el.as_evmtypes_MsgEthereumTx_GetFrom = [] then some "ErrInvalidAddress"
            else if !d.ek_GetCodeHash_el_as_evmtypes_MsgEthereumTx_GetFrom_call_IsEmptyCodeHash then some "ErrInvalidType"
            else (next sim).2) := by
  unfold evmlane_ELValidateBasicEoaDecorator_AnteHandle
  simp only [hb, h0]
  cases b
  · rfl
  · simp only [Bool.not_true, Bool.false_eq_true, if_false]
    cases hf : el.as_evmtypes_MsgEthereumTx_GetFrom with
    | nil => simp
    | cons x xs =>
      cases d.ek_GetCodeHash_el_as_evmtypes_MsgEthereumTx_GetFrom_call_IsEmptyCodeHash <;> simp

/-- `991e_setup_exec_ctx`: never refuses; for an Ethereum-lane transaction it makes exactly one call — `SetupExecutionContext`
with the embedded transaction — *before* the rest of the chain runs; for any other transaction it makes none -/
theorem tie_setup_exec (d : evmlane_ELSetupExecutionDecorator) (ctx : types_Context) (tx : types_Tx) (sim : Bool) (next : Next)
    (b : Bool) (el : iface_ProtoMessage_Reset_String) (hb : utils_HasSingleEthereumMessage tx = some b) (h0 : Go.idx tx.GetMsgs 0 = some el) :
    evmlane_ELSetupExecutionDecorator_AnteHandle d ctx tx sim next =
      some ((next sim).2, if b then [Go.Effect.mk "sed.ek.SetupExecutionContext_el_as_evmtypes_MsgEthereumTx_AsTransaction" []] else []) := by
  unfold evmlane_ELSetupExecutionDecorator_AnteHandle
  simp only [hb, h0]
  cases b <;> rfl

/-- **`992e_emit_event`**: never refuses; for an Ethereum-lane transaction it emits one event whose index attribute is
`GetTxCountTransient − 1` — the position of the transaction among the Ethereum transactions that reached execution set-up
(`991e` runs before it: `fact_ante_chain`) -/
theorem tie_emit_event (d : evmlane_ELEmitEventDecorator) (ctx : types_Context) (tx : types_Tx) (sim : Bool) (next : Next)
    (b : Bool) (el : iface_ProtoMessage_Reset_String) (hb : utils_HasSingleEthereumMessage tx = some b) (h0 : Go.idx tx.GetMsgs 0 = some el) :
    evmlane_ELEmitEventDecorator_AnteHandle d ctx tx sim next =
      some ((next sim).2, if b then [Go.Effect.mk "ctx.EventManager().EmitEvent" [((txCountOf ctx - 1 : Nat) : Int)]] else []) := by
  unfold evmlane_ELEmitEventDecorator_AnteHandle
  simp only [hb, h0, tie_tx_count]
  cases b
  · rfl
  · simp only [Bool.not_true, Bool.false_eq_true, if_false, if_true]
    rw [Go.usub_of_le _ _ (txCountOf_pos ctx) (txCountOf_lt ctx)]
    rfl

end Evermint.Facts.TieAnteEvm
