import EvermintModel.Facts.Gen
import EvermintModel.Model.Block
/-! Fact obligations shared by C04 / C05 / C06 / C13: what the accounting model assumes about the
code is re-read from /repo and the pinned fork on every run. -/
namespace Evermint.Facts.Block
open Evermint.Facts

/-- balance-changing call sites of the interpreter: only `core.Transfer` (Sub;Add), the zero-value
touch in `StaticCall`, and `opSelfdestruct` — the primitives the C04 theorems cover -/
theorem fact_balance_sites :
    (Gen.forkStateWriteSites.filter (fun s => s.2.2 == "AddBalance" || s.2.2 == "SubBalance")).map (fun s => (s.2.1, s.2.2))
      = [("EVM.StaticCall", "AddBalance"), ("opSelfdestruct", "AddBalance")] ∧
    Gen.forkCoreEvmBalanceSites.map (fun s => (s.2.1, s.2.2)) = [("Transfer", "SubBalance"), ("Transfer", "AddBalance")] := by
  decide +kernel

/-- the refund is credited with `AddBalance` (a mint) inside the transition … -/
theorem fact_refund_mints : Gen.refundGasCalls.contains "st.state.AddBalance" = true := by decide +kernel

/-- … and `EthereumTx` takes the same amount out of the fee collector and burns it (F3 fix) -/
theorem fact_refund_burnt_from_collector :
    Gen.ethereumTxCalls.contains "k.bankKeeper.SendCoinsFromModuleToModule" = true ∧
    Gen.ethereumTxCalls.contains "k.bankKeeper.BurnCoins" = true ∧
    Gen.ethereumTxCalls.contains "k.IsSenderPaidTxFeeInAnteHandle" = true := by decide +kernel

theorem fact_refund_quotient : Gen.refundQuotientEIP3529 = Evermint.Block.refundQuotient ∧
    Gen.refundQuotientArgs = ["params.RefundQuotient", "params.RefundQuotientEIP3529"] := by decide +kernel

/-- minimum accepted gas limit is TxGas − 1 -/
theorem fact_min_gas : Gen.txGas - 1 = 20999 := rfl

/-- consume-all-gas on consensus errors, reset-to-used on success -/
theorem fact_gas_meter_reset :
    (Gen.applyTransactionCalls.filter (· == "k.ResetGasMeterAndConsumeGas")).length = 2 ∧
    Gen.applyTransactionCalls.contains "ctx.GasMeter().Limit" = true := by decide +kernel

/-- the receipt event restores log indices from the cumulative transient log count (F7 fix) -/
theorem fact_log_index_restored : Gen.ethereumTxCalls.contains "k.GetCumulativeLogCountTransient" = true := by decide +kernel

/-- the handler undoes the ante nonce bump and clears the flag before applying the transaction -/
theorem fact_nonce_flag_used :
    Gen.ethereumTxCalls.contains "k.IsSenderNonceIncreasedByAnteHandle" = true ∧
    Gen.ethereumTxCalls.contains "k.SetFlagSenderNonceIncreasedByAnteHandle" = true := by decide +kernel

/-- ante order for the Ethereum lane as the model applies it: validate-basic < fee < signature/nonce <
sequence increment < execution set-up < event -/
theorem fact_ante_order :
    Gen.anteChain.idxOf "duallane.NewDualLaneValidateBasicDecorator" < Gen.anteChain.idxOf "duallane.NewDualLaneDeductFeeDecorator" ∧
    Gen.anteChain.idxOf "duallane.NewDualLaneDeductFeeDecorator" < Gen.anteChain.idxOf "duallane.NewDualLaneSigVerificationDecorator" ∧
    Gen.anteChain.idxOf "duallane.NewDualLaneSigVerificationDecorator" < Gen.anteChain.idxOf "duallane.NewDualLaneIncrementSequenceDecorator" ∧
    Gen.anteChain.idxOf "duallane.NewDualLaneIncrementSequenceDecorator" < Gen.anteChain.idxOf "evmlane.NewEvmLaneSetupExecutionDecorator" ∧
    Gen.anteChain.idxOf "evmlane.NewEvmLaneSetupExecutionDecorator" < Gen.anteChain.idxOf "evmlane.NewEvmLaneEmitEventDecorator" ∧
    Gen.anteChain.idxOf "evmlane.NewEvmLaneEmitEventDecorator" < Gen.anteChain.length := by decide +kernel

end Evermint.Facts.Block
