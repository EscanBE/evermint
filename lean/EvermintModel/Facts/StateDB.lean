import EvermintModel.Facts.Gen
/-! Fact obligations for C15 / C01 about `x/evm/vm/state_db.go` and `x/evm/utils/validation.go`. -/
namespace Evermint.Facts.StateDB
open Evermint.Facts

/-- `DestroyAccount` evaluates the guard at the **block time** of its current context, and the guard
itself never reads the wall clock (F1 fix) -/
theorem fact_destroy_guard_block_time :
    Gen.destroyAccountCalls.contains "evmutils.CheckIfAccountIsSuitableForDestroyingAt" = true ∧
    Gen.destroyAccountCalls.contains "d.currentCtx.BlockTime" = true ∧
    Gen.destroyGuardAtCalls.contains "time.Now" = false ∧
    Gen.destroyAccountCalls.contains "time.Now" = false := by decide +kernel

/-- `DestroyAccount` removes the account record, burns all balances, deletes the code hash and every storage slot -/
theorem fact_destroy_removes_everything :
    Gen.destroyAccountCalls.contains "d.accountKeeper.RemoveAccount" = true ∧
    Gen.destroyAccountCalls.contains "d.bankKeeper.GetAllBalances" = true ∧
    Gen.destroyAccountCalls.contains "d.burnCoins" = true ∧
    Gen.destroyAccountCalls.contains "d.evmKeeper.DeleteCodeHash" = true ∧
    Gen.destroyAccountCalls.contains "d.evmKeeper.ForEachStorage" = true := by decide +kernel

/-- the commit loop destroys accounts while ranging a sorted slice, never the Go map (F2 fix) -/
theorem fact_commit_sorted :
    Gen.commitRanges = ["d.touched map=true effects=false", "touchedAddresses map=false effects=true"] := rfl

/-- the only wall-clock read in consensus packages is the deprecated wrapper, which nothing in
consensus code calls (`destroyAccountCalls` uses the `…At` variant) -/
theorem fact_census_time_now :
    Gen.censusTimeNow = [("x/evm/utils/validation.go", "CheckIfAccountIsSuitableForDestroying", "time.Now")] := rfl

end Evermint.Facts.StateDB
