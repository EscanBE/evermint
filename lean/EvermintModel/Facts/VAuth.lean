import EvermintModel.Facts.Gen
import EvermintModel.Model.VAuth
/-! Fact obligations for C16: the fixed fee and the fixed message are what /repo says now. -/
namespace Evermint.Facts.VAuth
open Evermint.Facts

theorem fact_vauth_cost : Gen.vauthCost = Evermint.VAuth.cost := rfl
/-- `MessageToSign = ModuleName = "vauth"`: the message is a constant, not caller-supplied -/
theorem fact_vauth_message : Gen.vauthMessageToSign = "vauth" := rfl

end Evermint.Facts.VAuth
