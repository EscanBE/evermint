import EvermintModel.Facts.Gen
/-!
# Explicit panic sites on the paths that run outside the per-transaction recovery  (regenerated every run, C20)

`BaseApp.runTx` recovers a panic raised while a transaction executes; nothing recovers one raised in
`BeginBlock` / `EndBlock` (the chain halts) — and the precompile dispatcher runs inside the EVM under `runTx` but
also under queries.  factgen lists every `panic(…)` of the files those paths live in.  The list below is the
audited one; each site is either unreachable from user input or covered by a theorem:

* `GetTxReceiptsTransient` (x2: a counted transaction without a receipt / an undecodable one) — the transient table
  has exactly one slot per counted transaction in every reachable block state: `C13_endBlock_total`;
* `SetBaseFee` / `SetEip155ChainId` / `GetEip155ChainId` / `WithChainID` / `SetupExecutionContext` — parameter
  store corruption or a missing chain id, not reachable by a transaction (the base fee itself is total and fits
  256 bits: `C09_total`);
* `GetBlockHashByBlockNumber` — negative height, callers pass heights of the current context;
* `NewKeeper` (both modules), `NewCustomPrecompiledContract`, `SetCustomPrecompiledContractMeta`,
  `GetNextDynamicCustomPrecompiledContractAddress` — construction / governance-time invariants;
* `customPrecompiledContractMethodExecutorImpl.Execute` (x2) — a call that reaches an executor with a read-only flag
  the fork should have refused, or with a foreign StateDB: under `runTx` recovery; E-crash drives every selector.

A seeded or accidental new panic on these paths changes the list and breaks `fact_block_panic_sites`.
-/
namespace Evermint.Facts.Panics
open Evermint.Facts

theorem fact_block_panic_sites :
    Gen.censusBlockPanics = [
      ("x/cpc/keeper/precompiles.go", "Keeper.GetNextDynamicCustomPrecompiledContractAddress", "panic x1"),
      ("x/cpc/keeper/precompiles.go", "Keeper.SetCustomPrecompiledContractMeta", "panic x2"),
      ("x/cpc/keeper/precompiles.go", "NewCustomPrecompiledContract", "panic x1"),
      ("x/cpc/keeper/precompiles.go", "customPrecompiledContractMethodExecutorImpl.Execute", "panic x2"),
      ("x/evm/keeper/keeper.go", "Keeper.GetBlockHashByBlockNumber", "panic x1"),
      ("x/evm/keeper/keeper.go", "Keeper.GetTxReceiptsTransient", "panic x2"),
      ("x/evm/keeper/keeper.go", "Keeper.SetupExecutionContext", "panic x1"),
      ("x/evm/keeper/keeper.go", "Keeper.WithChainID", "panic x1"),
      ("x/evm/keeper/keeper.go", "NewKeeper", "panic x2"),
      ("x/evm/keeper/params.go", "Keeper.ForTest_RemoveEip155ChainId", "panic x1"),
      ("x/evm/keeper/params.go", "Keeper.GetEip155ChainId", "panic x2"),
      ("x/evm/keeper/params.go", "Keeper.SetEip155ChainId", "panic x1"),
      ("x/feemarket/keeper/keeper.go", "NewKeeper", "panic x1"),
      ("x/feemarket/keeper/params.go", "Keeper.SetBaseFee", "panic x1")] := rfl

end Evermint.Facts.Panics
