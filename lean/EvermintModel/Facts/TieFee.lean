import EvermintModel.Facts.GenCode
import EvermintModel.Base.GoSemLemmas
import EvermintModel.Model.Block
/-!
Tie theorems: the fee / price functions **as translated from the Go source on this run** (`Facts/GenCode.lean`)
equal the definitions of `Model/Block.lean` that the property theorems (C04, C05, C09) are about.
-/
namespace Evermint.Facts.TieFee
open Evermint Evermint.GenCode Evermint.Block

/-- the view of a model transaction that the go-ethereum accessors return (`tx.Type()`, `tx.GasFeeCap()`, …) -/
def txOf (t : EthTx) : types_Transaction :=
  { (default : types_Transaction) with Gas := t.gasLimit, GasFeeCap := t.feeCap, GasPrice := t.gasPrice, GasTipCap := t.tip, Type' := t.ty }

/-- `EthTxEffectiveGasPrice` is the model's `effPrice` (dynamic-fee: min(tip + base, cap); otherwise the gas price) -/
theorem tie_effective_gas_price (t : EthTx) (base : Nat) :
    utils_EthTxEffectiveGasPrice (txOf t) (base : Int) = some ((effPrice t base : Nat) : Int) := by
  unfold utils_EthTxEffectiveGasPrice effPrice utils_add txOf
  by_cases h : t.ty = 2
  · simp [h]; omega
  · simp [h]

/-- `EthTxEffectiveFee` = effective price × gas limit: what the ante handler deducts (`C05_charge`, `C04_sender_collector`) -/
theorem tie_effective_fee (t : EthTx) (base : Nat) :
    utils_EthTxEffectiveFee (txOf t) (base : Int) = some ((effPrice t base * t.gasLimit : Nat) : Int) := by
  unfold utils_EthTxEffectiveFee
  rw [tie_effective_gas_price]
  simp [utils_mul, txOf]

/-- `EthTxGasPrice` / `EthTxFee`: the declared price (fee cap for a dynamic-fee transaction) and the declared fee -/
theorem tie_declared_price (t : EthTx) :
    utils_EthTxGasPrice (txOf t) = some ((declaredPrice t : Nat) : Int) := by
  unfold utils_EthTxGasPrice declaredPrice txOf
  by_cases h : t.ty = 2 <;> simp [h]

theorem tie_declared_fee (t : EthTx) :
    utils_EthTxFee (txOf t) = some ((declaredPrice t * t.gasLimit : Nat) : Int) := by
  unfold utils_EthTxFee
  rw [tie_declared_price]
  simp [utils_mul, txOf]

/-- the effective price never exceeds the declared one when the tip is within the cap … -/
theorem eff_le_declared (t : EthTx) (base : Nat) : effPrice t base ≤ max (declaredPrice t) (effPrice t base) := by omega

/-! ### the admission price (C09: nothing below max(base fee, ⌊global minimum⌋) is executed) -/

/-- the context and parameters, as `getMinGasPricesAllowed` reads them -/
def ctxOf (isCheck isRecheck : Bool) (nodeMin : String → Int) : types_Context :=
  { (default : types_Context) with IsCheckTx := isCheck, IsReCheckTx := isRecheck, MinGasPrices_AmountOf := nodeMin }

def fpOf (s : BState) : types_Params := { (default : types_Params) with BaseFee := s.baseFee, MinGasPrice := s.minRaw }

/-- **`getMinGasPricesAllowed`**, any context, any parameters: the base fee, raised to the node's own minimum in `CheckTx` (not
`ReCheckTx`), raised to the integer part of the global minimum -/
theorem min_gas_price_eq (ctx : types_Context) (fp : types_Params) (denom : String) :
    ∃ src, duallane_getMinGasPricesAllowed ctx fp denom =
      some (max (if ctx.IsCheckTx && !ctx.IsReCheckTx then max fp.BaseFee (Go.decTruncate (ctx.MinGasPrices_AmountOf denom))
                 else fp.BaseFee) (Go.decTruncate fp.MinGasPrice), src) := by
  unfold duallane_getMinGasPricesAllowed
  simp only [decide_eq_true_eq, Go.ite_lt_pair]
  cases ctx.IsCheckTx <;> cases ctx.IsReCheckTx <;> exact ⟨_, rfl⟩

/-- **deliver mode**: the admission price is exactly `max baseFee ⌊minGasPrice⌋` — and the node's own minimum gas price
is not read at all (C01: no node-local configuration in block execution) -/
theorem tie_min_gas_price_deliver (s : BState) (isRecheck : Bool) (nodeMin : String → Int) (denom : String) :
    (duallane_getMinGasPricesAllowed (ctxOf false isRecheck nodeMin) (fpOf s) denom).map (·.1)
      = some ((max s.baseFee (floorMin s) : Nat) : Int) := by
  obtain ⟨src, h⟩ := min_gas_price_eq (ctxOf false isRecheck nodeMin) (fpOf s) denom
  rw [h]
  simp only [ctxOf, fpOf, floorMin, Go.decTruncate_nat, Option.map_some, Bool.false_and, Bool.false_eq_true, if_false]
  congr 1; omega

/-- **every mode** (also mempool admission with a node minimum): never below `max baseFee ⌊minGasPrice⌋` -/
theorem tie_min_gas_price_ge (s : BState) (ctx : types_Context) (denom : String) :
    ∃ p src, duallane_getMinGasPricesAllowed ctx (fpOf s) denom = some (p, src) ∧
      ((max s.baseFee (floorMin s) : Nat) : Int) ≤ p := by
  obtain ⟨src, h⟩ := min_gas_price_eq ctx (fpOf s) denom
  refine ⟨_, src, h, ?_⟩
  simp only [fpOf, floorMin, Go.decTruncate_nat]
  split <;> omega

/-- **`getTxPriority`** looks at the first fee coin only: its amount divided by the gas (a panic on gas 0) is refused below the
admission price, and is otherwise the priority, capped at `MaxInt64` -/
theorem priority_eq (c : Go.Coin) (tl : List Go.Coin) (gas minAllowed : Int) (src : String) :
    duallane_getTxPriority (c :: tl) gas minAllowed src =
      (Go.sdkQuo c.Amount gas).map fun q =>
        if q < minAllowed then (0, some "ErrInsufficientFee") else (if Go.bigIsInt64 q then q else 9223372036854775807, none) := by
  unfold duallane_getTxPriority
  simp only [Go.idx_zero_cons, decide_eq_true_eq]
  cases Go.sdkQuo c.Amount gas with
  | none => rfl
  | some q =>
    by_cases hlt : q < minAllowed
    · simp only [hlt, Option.map_some, if_true]
    · cases hi : Go.bigIsInt64 q <;> simp [hlt, hi, Go.sdkInt64_of]

/-- on the effective fee: refused with `ErrInsufficientFee` exactly when fee / gas is below the admission price -/
theorem tie_priority_refuses (amount gas minAllowed : Nat) (src denom : String) (hg : 0 < gas) (ha : amount < 2^256) :
    ∃ pr, duallane_getTxPriority [⟨denom, amount⟩] gas minAllowed src
      = some (pr, if amount / gas < minAllowed then some "ErrInsufficientFee" else none) := by
  rw [priority_eq, Go.sdkQuo_nat amount gas hg ha]
  simp only [Option.map_some, Int.ofNat_lt]
  split <;> exact ⟨_, rfl⟩

/-- it **panics on an empty fee list** (a zero effective fee — `sdk.NewCoins` drops the zero coin — the model's `antePanicCode`
clause) -/
theorem tie_priority_panics_on_empty (gas minAllowed : Int) (src : String) :
    duallane_getTxPriority [] gas minAllowed src = none := by
  simp [duallane_getTxPriority, Go.idx_nil]

/-- `validateSingleFee`: exactly one coin, of the EVM denomination -/
theorem tie_single_fee (fees : List Go.Coin) (denom : String) :
    duallane_validateSingleFee fees denom = some none ↔ ∃ a, fees = [⟨denom, a⟩] := by
  unfold duallane_validateSingleFee
  match fees with
  | [] => simp
  | [⟨d, a⟩] => simp [Go.idx_zero_cons]
  | _ :: _ :: tl =>
    have : ((tl.length : Int) + 1 + 1 = 1) = False := by simp; omega
    simp [this]

end Evermint.Facts.TieFee
