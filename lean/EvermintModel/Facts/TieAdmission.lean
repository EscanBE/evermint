import EvermintModel.Facts.TieFee
/-!
Tie theorems for C09 (admission): the two fee checkers of `/repo/app/antedl/duallane/07_deduct_fee.go` — closures, a loop
with a `break` over the extension options, a nullable `*sdkmath.Int`, `sdk.NewCoins` — **as translated from the Go
source on this run**.  The statements are about the generated definitions themselves, for *every* value of everything
the code reads (context mode, parameters, fee coins, gas, tip, options): an accepted transaction is charged at least
`max(base fee, ⌊global minimum gas price⌋)` per gas.

A call of a function that may panic is translated as `match f x with | none => none | some t => …`; the proofs take it by
`rcases hf : f x with _ | t` and rewrite with `hf`.  (No lemma can do this step: its own `match` would be another constant than
the generated one, and Lean does not unfold the two to unify them.)
-/
namespace Evermint.Facts.TieAdmission
open Evermint Evermint.GenCode

/-- what C09 promises about a transaction that the fee checker lets through: the fee it will be charged, divided by its
gas, is at least the base fee and at least the integer part of the global minimum gas price -/
def Admitted (fk : duallane_FeeMarketKeeperForFeeChecker) (coins : List Go.Coin) (gas : Int) : Prop :=
  ∃ c q, coins.head? = some c ∧ Go.sdkQuo c.Amount gas = some q ∧
    max fk.GetParams_BaseFee (Go.decTruncate fk.GetParams_MinGasPrice) ≤ q

theorem min_gas_price_ge (ctx : types_Context) (fp : types_Params) (denom : String) :
    ∃ p src, duallane_getMinGasPricesAllowed ctx fp denom = some (p, src) ∧
      max fp.BaseFee (Go.decTruncate fp.MinGasPrice) ≤ p := by
  obtain ⟨src, h⟩ := TieFee.min_gas_price_eq ctx fp denom
  exact ⟨_, src, h, by split <;> omega⟩

theorem priority_ok (fees : List Go.Coin) (gas minA p : Int) (src : String)
    (h : duallane_getTxPriority fees gas minA src = some (p, none)) :
    ∃ c q, fees.head? = some c ∧ Go.sdkQuo c.Amount gas = some q ∧ minA ≤ q := by
  cases fees with
  | nil => rw [TieFee.tie_priority_panics_on_empty] at h; cases h
  | cons c tl =>
    rw [TieFee.priority_eq] at h
    rcases hq : Go.sdkQuo c.Amount gas with _ | q
    · rw [hq] at h; cases h
    rw [hq] at h
    rcases of_ite_eq (Option.some.inj h) with ⟨-, h⟩ | ⟨hlt, -⟩; · cases h
    exact ⟨c, q, rfl, hq, Int.not_lt.mp hlt⟩

/-- the fee-market parameters as both checkers hand them to `getMinGasPricesAllowed` -/
abbrev paramsOf (fk : duallane_FeeMarketKeeperForFeeChecker) : types_Params :=
  { BaseFee := fk.GetParams_BaseFee, BaseFee_IsNil := fk.GetParams_BaseFee_IsNil, MinGasPrice := fk.GetParams_MinGasPrice,
    MinGasPrice_call_validateMinGasPrice := fk.GetParams_MinGasPrice_call_validateMinGasPrice }

/-- the join point in which every path of the Cosmos checker ends: the admission price of this context, then the priority of
the fee `eff` at that price -/
theorem k4_ok {ek fk ctx tx ok denom baseFee fees err fee tip ok1 eff gas} {coins : List Go.Coin} {p : Int}
    (h : duallane_CosmosTxFeeChecker.k4 ek fk ctx tx ok denom baseFee fees err fee tip ok1 eff gas = some (coins, p, none)) :
    Admitted fk coins (Go.toI 64 ((gas : Nat) : Int)) := by
  unfold duallane_CosmosTxFeeChecker.k4 at h
  obtain ⟨m, src, hm, hge⟩ := min_gas_price_ge ctx (paramsOf fk) denom
  simp only [hm] at h
  rcases hp : duallane_getTxPriority eff (Go.toI 64 ((gas : Nat) : Int)) m src with _ | ⟨pr, _ | e⟩ <;> simp [hp] at h
  obtain ⟨rfl, rfl⟩ := h
  obtain ⟨c, q, h1, h2, h3⟩ := priority_ok _ _ _ _ _ hp
  exact ⟨c, q, h1, h2, Int.le_trans hge h3⟩

theorem k3_ok {ek fk ctx tx ok denom baseFee fees err fee tip ok1} {coins : List Go.Coin} {p : Int}
    (h : duallane_CosmosTxFeeChecker.k3 ek fk ctx tx ok denom baseFee fees err fee tip ok1 = some (coins, p, none)) :
    Admitted fk coins (Go.toI 64 ((tx.as_sdk_FeeTx_GetGas : Nat) : Int)) := by
  unfold duallane_CosmosTxFeeChecker.k3 at h
  -- without a tip the declared fee goes to `k4` as it is; with one, the fee computed from it does
  rcases of_ite_eq h with ⟨-, h⟩ | ⟨-, h⟩
  · rcases tip with _ | t
    · cases h
    rcases of_ite_eq h with ⟨-, h⟩ | ⟨-, h⟩; · cases h
    rcases h1 : Go.sdkQuo fee.Amount ((tx.as_sdk_FeeTx_GetGas : Nat) : Int) with _ | cap
    · simp [h1] at h
    simp only [h1] at h
    rcases h2 : Go.sdkInt (min (t + baseFee) cap) with _ | e1
    · simp [h2] at h
    simp only [h2] at h
    rcases h3 : Go.sdkMul e1 ((tx.as_sdk_FeeTx_GetGas : Nat) : Int) with _ | e2
    · simp [h3] at h
    simp only [h3] at h
    rcases h4 : Go.newCoin denom e2 with _ | c
    · simp [h4] at h
    simp only [h4] at h
    exact k4_ok h
  · exact k4_ok h

theorem range1_ok (ek fk ctx tx ok denom baseFee fees err fee ok1) (coins : List Go.Coin) (p : Int) :
    ∀ (it : List types_Any) (ix : Int) (tip : Option Int),
      duallane_CosmosTxFeeChecker.range1 it ix ek fk ctx tx ok denom baseFee fees err fee tip ok1 = some (coins, p, none) →
      Admitted fk coins (Go.toI 64 ((tx.as_sdk_FeeTx_GetGas : Nat) : Int)) := by
  -- the loop goes on to `k2`, that is `k3`, with the tip of the first dynamic-fee option, or with the tip it had
  intro it
  induction it with
  | nil => exact fun ix tip h => k3_ok h
  | cons o tl ih =>
    intro ix tip h
    unfold duallane_CosmosTxFeeChecker.range1 at h
    rcases of_ite_eq h with ⟨-, h⟩ | ⟨-, h⟩
    · exact k3_ok h
    · exact ih _ _ h

/-- **C09, Cosmos lane** (every transaction without an Ethereum message, after genesis, every context — check, re-check,
deliver — and every extension option list, with or without `ExtensionOptionDynamicFeeTx`): whatever fee the checker
returns for deduction has a price per gas of at least `max(base fee, ⌊global minimum gas price⌋)` -/
theorem tie_cosmos_fee_checker_admits (ek : duallane_EvmKeeperForFeeChecker) (fk : duallane_FeeMarketKeeperForFeeChecker)
    (ctx : types_Context) (tx : types_Tx) (coins : List Go.Coin) (p : Int) (hh : ctx.BlockHeight ≠ 0)
    (h : duallane_CosmosTxFeeChecker ek fk ctx tx = some (coins, p, none)) :
    Admitted fk coins (Go.toI 64 ((tx.as_sdk_FeeTx_GetGas : Nat) : Int)) := by
  unfold duallane_CosmosTxFeeChecker at h
  rcases hs : utils_HasSingleEthereumMessage tx with _ | b
  · simp [hs] at h
  simp only [hs] at h
  rcases of_ite_eq h with ⟨-, h⟩ | ⟨-, h⟩; · cases h
  rcases of_ite_eq h with ⟨-, h⟩ | ⟨-, h⟩; · cases h
  rcases of_ite_eq h with ⟨hg, -⟩ | ⟨-, h⟩; · exact absurd (by simpa using hg) hh
  rcases hv : duallane_validateSingleFee tx.as_sdk_FeeTx_GetFee ek.GetParams_EvmDenom with _ | e
  · simp [hv] at h
  simp only [hv] at h
  rcases of_ite_eq h with ⟨he, h⟩ | ⟨-, h⟩; · cases h; simp at he
  rcases hi : Go.idx tx.as_sdk_FeeTx_GetFee 0 with _ | fee
  · simp [hi] at h
  simp only [hi] at h
  rcases of_ite_eq h with ⟨-, h⟩ | ⟨-, h⟩
  · exact range1_ok _ _ _ _ _ _ _ _ _ _ _ _ _ _ _ _ h
  · exact k3_ok h

/-- **C09, Ethereum lane**: whatever the checker returns for deduction is priced at least
`max(base fee, ⌊global minimum gas price⌋)` per gas — in every context and for every transaction content; a zero effective
fee makes it panic (the fee list is empty), never pass -/
theorem tie_eth_fee_checker_admits (ek : duallane_EvmKeeperForFeeChecker) (fk : duallane_FeeMarketKeeperForFeeChecker)
    (ctx : types_Context) (tx : types_Tx) (coins : List Go.Coin) (p : Int)
    (h : duallane_EthereumTxFeeChecker ek fk ctx tx = some (coins, p, none)) :
    ∃ el, Go.idx tx.GetMsgs 0 = some el ∧
      Admitted fk coins (Go.toI 64 ((el.as_evmtypes_MsgEthereumTx_AsTransaction_Gas : Nat) : Int)) := by
  unfold duallane_EthereumTxFeeChecker at h
  rcases hs : utils_HasSingleEthereumMessage tx with _ | b
  · simp [hs] at h
  simp only [hs] at h
  rcases of_ite_eq h with ⟨-, h⟩ | ⟨-, h⟩; · cases h
  rcases of_ite_eq h with ⟨-, h⟩ | ⟨-, h⟩; · cases h
  rcases hv : duallane_validateSingleFee tx.as_sdk_FeeTx_GetFee ek.GetParams_EvmDenom with _ | e
  · simp [hv] at h
  simp only [hv] at h
  rcases of_ite_eq h with ⟨he, h⟩ | ⟨-, h⟩; · cases h; simp at he
  rcases hi : Go.idx tx.GetMsgs 0 with _ | el
  · simp [hi] at h
  refine ⟨el, rfl, ?_⟩
  simp only [hi] at h
  generalize utils_EthTxEffectiveFee _ fk.GetParams_BaseFee = ef at h
  rcases ef with _ | f1
  · cases h
  rcases h2 : Go.sdkInt f1 with _ | f2
  · simp [h2] at h
  simp only [h2] at h
  rcases h3 : Go.newCoin ek.GetParams_EvmDenom f2 with _ | c
  · simp [h3] at h
  simp only [h3] at h
  -- what is left are, word for word, the lines of the Cosmos checker's join point `k4` (which reads none of the arguments filled
  -- in here with arbitrary values)
  exact k4_ok (ek := ek) (tx := tx) (ok := true) (baseFee := 0) (fees := []) (err := none) (fee := default) (tip := none)
    (ok1 := true) h

end Evermint.Facts.TieAdmission
