import EvermintModel.Facts.GenCode
import EvermintModel.Base.GoSemLemmas
import EvermintModel.Model.Block
import EvermintModel.Model.World
/-!
Tie theorems for the state transition (C04, C05, C06, C09, C15, C01): `StateTransition.gasUsed / buyGas / preCheck /
refundGas` of `/repo/x/evm/keeper/state_transition_core.go`, go-ethereum's `IntrinsicGas`, the destroy guard
`CheckIfAccountIsSuitableForDestroyingAt` and `BlockGasLimit`, **as translated from the Go source on this run**
(`Facts/GenCode.lean`), against the quantities of `Model/Block.lean` / `Model/World.lean`.
-/
namespace Evermint.Facts.TieTransition
open Evermint Evermint.GenCode Evermint.Block

/-- the invariant of `StateTransition`: gas left never exceeds the gas bought, both are uint64 -/
def GasInv (st : keeper_StateTransition) : Prop := st.gas ≤ st.initialGas ∧ st.initialGas < 2^64

theorem tie_gas_used (st : keeper_StateTransition) (h : GasInv st) :
    keeper_StateTransition_gasUsed st = some (st.initialGas - st.gas) := by
  unfold keeper_StateTransition_gasUsed
  rw [Go.usub_of_le _ _ h.1 h.2]

/-- the refund the Go code applies: `min (gasUsed / quotient) refundCounter` -/
def refundOf (st : keeper_StateTransition) (q : Nat) : Nat := min ((st.initialGas - st.gas) / q) st.state_GetRefund

theorem refundOf_le (st : keeper_StateTransition) (q : Nat) (hq : 0 < q) : refundOf st q ≤ (st.initialGas - st.gas) / q :=
  Nat.min_le_left _ _

/-- a proof script that does not look at how the code spells `min` -/
macro "refund_tac" st:ident q:ident hq:ident h:ident : tactic => `(tactic| (
  rw [tie_gas_used $st $h]
  have hq' : $q ≠ 0 := by omega
  have hdiv : (($st).initialGas - ($st).gas) / $q ≤ ($st).initialGas - ($st).gas := Nat.div_le_self _ _
  have hg1 := ($h).1
  have hg2 := ($h).2
  have ea : Go.uadd 64 ($st).gas ((($st).initialGas - ($st).gas) / $q) = ($st).gas + (($st).initialGas - ($st).gas) / $q := Go.uadd_of_lt _ _ (by omega)
  rcases Nat.lt_trichotomy ((($st).initialGas - ($st).gas) / $q) ($st).state_GetRefund with hlt | heq | hgt
  · have f1 : ¬ (($st).state_GetRefund < (($st).initialGas - ($st).gas) / $q) := by omega
    have f2 : ¬ (($st).state_GetRefund ≤ (($st).initialGas - ($st).gas) / $q) := by omega
    have f3 : (($st).initialGas - ($st).gas) / $q ≤ ($st).state_GetRefund := by omega
    have hm : refundOf $st $q = (($st).initialGas - ($st).gas) / $q := by unfold refundOf; omega
    cases hp : ($st).SenderPaidTheFee <;> simp [Go.udiv, hq', hlt, f1, f2, f3, hm, ea, hp]
  · have eb : Go.uadd 64 ($st).gas ($st).state_GetRefund = ($st).gas + ($st).state_GetRefund := by rw [← heq]; exact ea
    have hm : refundOf $st $q = ($st).state_GetRefund := by unfold refundOf; omega
    cases hp : ($st).SenderPaidTheFee <;> simp [Go.udiv, hq', heq, hm, eb, hp]
  · have f1 : ¬ ((($st).initialGas - ($st).gas) / $q < ($st).state_GetRefund) := by omega
    have f2 : ¬ ((($st).initialGas - ($st).gas) / $q ≤ ($st).state_GetRefund) := by omega
    have f3 : ($st).state_GetRefund ≤ (($st).initialGas - ($st).gas) / $q := by omega
    have eb : Go.uadd 64 ($st).gas ($st).state_GetRefund = ($st).gas + ($st).state_GetRefund := Go.uadd_of_lt _ _ (by omega)
    have hm : refundOf $st $q = ($st).state_GetRefund := by unfold refundOf; omega
    cases hp : ($st).SenderPaidTheFee <;> simp [Go.udiv, hq', hgt, f1, f2, f3, hm, eb, hp]))


/-- **`refundGas`**: the gas counter grows by exactly `min (gasUsed / q) counter`; the sender is credited
`remaining gas × price` exactly when it paid the fee in the ante handler; the same remaining gas goes back to the gas
pool; and the only way to panic is a zero quotient.  `obs` is the call of the observation hook `verifObserveRefund`, whose
arguments are not claimed.  (The proof script splits on the order of the two quantities and lets `simp` decide every
comparison, so it does not depend on how the code spells the minimum.) -/
theorem tie_refund_gas (st : keeper_StateTransition) (q : Nat) (hq : 0 < q) (h : GasInv st) :
    ∃ obs, keeper_StateTransition_refundGas st q =
      some ({ st with gas := st.gas + refundOf st q },
            [obs] ++ (if st.SenderPaidTheFee then [Go.Effect.mk "st.state.AddBalance_st_msg_From" [((st.gas + refundOf st q : Nat) : Int) * st.gasPrice]] else [])
                  ++ [Go.Effect.mk "st.gp.AddGas" [((st.gas + refundOf st q : Nat) : Int)]]) := by
  unfold keeper_StateTransition_refundGas
  refund_tac st q hq h

theorem tie_refund_gas_panics_on_zero_quotient (st : keeper_StateTransition) (h : GasInv st) :
    keeper_StateTransition_refundGas st 0 = none := by
  unfold keeper_StateTransition_refundGas
  simp only [tie_gas_used st h, Go.udiv_zero]

/-- the interpreter's summary, as the Block model takes it, for a state transition that bought `initialGas` -/
def execOf (st : keeper_StateTransition) (vmErr : Bool) (nLogs : Nat) : Exec :=
  { vmErr := vmErr, gasBefore := st.initialGas - st.gas, refundCounter := st.state_GetRefund, nLogs := nLogs, panicked := false }

/-- with London's quotient the Go refund is the model's `Exec.refund`, the gas used afterwards is `Exec.gasUsed`
(`C05_refund_cap`: at most a fifth of the gas consumed), and the amount credited to the sender is the model's
`(gasLimit − gasUsed) × price` (`C04_refund_conserves`, `C05_charge`) -/
theorem tie_refund_is_model (st : keeper_StateTransition) (vmErr : Bool) (nLogs : Nat) (h : GasInv st) :
    refundOf st refundQuotient = (execOf st vmErr nLogs).refund ∧
    st.initialGas - (st.gas + refundOf st refundQuotient) = (execOf st vmErr nLogs).gasUsed ∧
    st.gas + refundOf st refundQuotient = st.initialGas - (execOf st vmErr nLogs).gasUsed ∧
    5 * refundOf st refundQuotient ≤ st.initialGas - st.gas := by
  have hle : refundOf st refundQuotient ≤ (st.initialGas - st.gas) / 5 := refundOf_le st _ (by decide)
  have hg := h.1
  refine ⟨rfl, ?_, ?_, ?_⟩
  · show _ = (st.initialGas - st.gas) - refundOf st refundQuotient; omega
  · show _ = st.initialGas - ((st.initialGas - st.gas) - refundOf st refundQuotient); omega
  · omega

theorem tie_buy_gas (st : keeper_StateTransition) (hg : st.gas + st.msg_Gas < 2^64) :
    keeper_StateTransition_buyGas st =
      some (match st.gp_SubGas st.msg_Gas with
            | some e => (some e, st, [Go.Effect.mk "st.gp.SubGas" [(st.msg_Gas : Int)]])
            | none => (none, { st with initialGas := st.msg_Gas, gas := st.gas + st.msg_Gas },
                       [Go.Effect.mk "st.gp.SubGas" [(st.msg_Gas : Int)]])) := by
  unfold keeper_StateTransition_buyGas
  cases hs : st.gp_SubGas st.msg_Gas with
  | some e => simp
  | none => simp [Go.uadd_of_lt _ _ hg]

/-- **C06 / C09 at the state transition**: whenever `preCheck` lets a real (non-fake) message through, its nonce equals
the account nonce, the nonce can still be incremented, the sender has no code, and — with London active and the base fee
not disabled — the fee cap is at least the tip and at least the base fee. -/
theorem tie_pre_check_accepts (st st' : keeper_StateTransition) (eff : List Go.Effect)
    (h : keeper_StateTransition_preCheck st = some (none, st', eff)) (hf : st.msg_IsFake = false)
    (hn : st.state_GetNonce_st_msg_From < 2^64) :
    st.state_GetNonce_st_msg_From = st.msg_Nonce ∧ st.state_GetNonce_st_msg_From + 1 < 2^64 ∧
    ¬ (st.cond_6871368b = true ∧ st.cond_efefb3c4 = true) ∧
    (st.evm_ChainConfig_IsLondon st.evm_Context_BlockNumber = true → st.evm_Config_NoBaseFee = false →
       st.gasTipCap ≤ st.gasFeeCap ∧ st.evm_Context_BaseFee ≤ st.gasFeeCap) := by
  unfold keeper_StateTransition_preCheck at h
  simp only [hf, Bool.not_false, if_true] at h
  -- every refusal returns an error: only the path past all guards can give `(none, …)`
  rcases of_ite_eq h with ⟨-, h⟩ | ⟨h1, h⟩; · cases h
  rcases of_ite_eq h with ⟨-, h⟩ | ⟨h2, h⟩; · cases h
  rcases of_ite_eq h with ⟨-, h⟩ | ⟨h3, h⟩; · cases h
  rcases of_ite_eq h with ⟨-, h⟩ | ⟨h4, h⟩; · cases h
  simp only [decide_eq_true_eq, Bool.and_eq_true] at h1 h2 h3 h4
  refine ⟨by omega, by unfold Go.uadd at h3; omega, h4, fun hL hNB => ?_⟩
  unfold keeper_StateTransition_preCheck.k1 at h
  simp only [hL, hNB, Bool.not_false, Bool.true_or, if_true] at h
  rcases of_ite_eq h with ⟨-, h⟩ | ⟨-, h⟩; · cases h
  rcases of_ite_eq h with ⟨-, h⟩ | ⟨-, h⟩; · cases h
  rcases of_ite_eq h with ⟨-, h⟩ | ⟨h7, h⟩; · cases h
  rcases of_ite_eq h with ⟨-, h⟩ | ⟨h8, h⟩; · cases h
  simp only [decide_eq_true_eq, Go.bigCmp_lt_zero] at h7 h8
  omega

def nzCount (d : List Nat) : Nat := (d.filter (fun b => b ≠ 0)).length

theorem nzCount_le (d : List Nat) : nzCount d ≤ d.length := List.length_filter_le _ _

/-- go-ethereum's formula over the naturals -/
def intrinsicSpec (data : List Nat) (alNil : Bool) (alLen alKeys : Nat) (create homestead eip2028 : Bool) : Nat :=
  (if create && homestead then 53000 else 21000)
  + nzCount data * (if eip2028 then 16 else 68)
  + (data.length - nzCount data) * 4
  + (if alNil then 0 else alLen * 2400 + alKeys * 1900)

/-- the loop that counts the non-zero bytes -/
theorem range_count (data : List Nat) (al : types_AccessList) (cc hs e28 : Bool) (gas : Nat) :
    ∀ (it : List Nat) (ix : Int) (nz : Nat), nz + it.length < 2^64 →
      core_IntrinsicGas.range1 it ix data al cc hs e28 gas nz
        = core_IntrinsicGas.k2 data al cc hs e28 gas (nz + nzCount it) := by
  intro it
  induction it with
  | nil => intro ix nz _; unfold core_IntrinsicGas.range1; simp [nzCount]
  | cons b tl ih =>
    intro ix nz hlen
    unfold core_IntrinsicGas.range1
    simp only [List.length_cons] at hlen
    by_cases hb : b = 0
    · simp only [hb, decide_true, Bool.not_true, Bool.false_eq_true, if_false]
      rw [ih _ _ (by omega)]
      simp [nzCount]
    · simp only [hb, decide_false, Bool.not_false, if_true]
      rw [Go.uadd_of_lt _ _ (by omega), ih _ _ (by omega)]
      have : nzCount (b :: tl) = nzCount tl + 1 := by simp [nzCount, hb]
      rw [this]; congr 1; omega

/-- the access-list part (join point `k3`): nothing wraps below 2^32 entries -/
theorem k3_eq (data : List Nat) (al : types_AccessList) (cc hs e28 : Bool) (gas : Nat) (hg : gas < 2^63)
    (hl : 0 ≤ al.len ∧ al.len < 2^32) (hk : 0 ≤ al.StorageKeys ∧ al.StorageKeys < 2^32) :
    core_IntrinsicGas.k3 data al cc hs e28 gas
      = some (gas + (if al.isNil then 0 else al.len.toNat * 2400 + al.StorageKeys.toNat * 1900), none) := by
  unfold core_IntrinsicGas.k3
  rw [Go.toU_of_nonneg 64 _ hl.1 (by omega), Go.toU_of_nonneg 64 _ hk.1 (by omega)]
  cases al.isNil
  · simp (disch := omega) only [Go.umul_of_lt, Go.uadd_of_lt, Bool.not_false, if_true, Bool.false_eq_true, if_false, Nat.add_assoc]
  · rfl

/-- go-ethereum's overflow-checked `gas += n * q`, guarded by `(MaxUint64 - gas) / q < n`, when the sum fits in 64 bits -/
theorem muladd_fits (a n q : Nat) (hq : 0 < q) (h : a + n * q < 2^64) :
    Go.usub 64 18446744073709551615 a = 18446744073709551615 - a ∧ ¬ ((18446744073709551615 - a) / q < n) ∧
      Go.uadd 64 a (Go.umul 64 n q) = a + n * q := by
  have hg : n ≤ (18446744073709551615 - a) / q := (Nat.le_div_iff_mul_le hq).mpr (by omega)
  refine ⟨Go.usub_of_le _ _ (by omega) (by omega), by omega, ?_⟩
  rw [Go.umul_of_lt _ _ (by omega), Go.uadd_of_lt _ _ h]

/-- the payload part (join point `k2`), `nz` non-zero bytes counted: the idiom twice, for the non-zero and for the zero bytes -/
theorem k2_eq (data : List Nat) (al : types_AccessList) (cc hs e28 : Bool) (gas nz : Nat) (hg : gas ≤ 53000)
    (hnz : nz ≤ data.length) (hd : data.length < 2^32) (hl : 0 ≤ al.len ∧ al.len < 2^32) (hk : 0 ≤ al.StorageKeys ∧ al.StorageKeys < 2^32) :
    core_IntrinsicGas.k2 data al cc hs e28 gas nz
      = some (gas + nz * (if e28 then 16 else 68) + (data.length - nz) * 4
              + (if al.isNil then 0 else al.len.toNat * 2400 + al.StorageKeys.toNat * 1900), none) := by
  unfold core_IntrinsicGas.k2
  simp only []
  generalize hq : (if e28 = true then (16 : Nat) else 68) = q
  have hq' : 0 < q ∧ q ≤ 68 := by rw [← hq]; split <;> omega
  have hm := Nat.mul_le_mul_left nz hq'.2
  obtain ⟨s1, g1, a1⟩ := muladd_fits gas nz q hq'.1 (by omega)
  obtain ⟨s2, g2, a2⟩ := muladd_fits (gas + nz * q) (data.length - nz) 4 (by decide) (by omega)
  have hz : Go.usub 64 (Go.toU 64 (data.length : Int)) nz = data.length - nz := by
    rw [Go.toU_of_nonneg 64 _ (by omega) (by omega), Int.toNat_natCast, Go.usub_of_le _ _ hnz (by omega)]
  simp only [s1, Go.udiv_of_ne _ (Nat.ne_of_gt hq'.1), g1, a1, hz, s2, g2, a2, decide_false, Bool.false_eq_true, if_false,
    k3_eq _ _ _ _ _ _ (show gas + nz * q + (data.length - nz) * 4 < 2^63 by omega) hl hk]

/-- **`IntrinsicGas`** for every payload and access list of realistic size (below 2^32 entries — a transaction is
bounded by the block size): no overflow branch is taken, nothing wraps, and the result is go-ethereum's formula. -/
theorem tie_intrinsic_gas (data : List Nat) (al : types_AccessList) (cc hs e28 : Bool)
    (hd : data.length < 2^32) (hl : 0 ≤ al.len ∧ al.len < 2^32) (hk : 0 ≤ al.StorageKeys ∧ al.StorageKeys < 2^32) :
    core_IntrinsicGas data al cc hs e28
      = some (intrinsicSpec data al.isNil al.len.toNat al.StorageKeys.toNat cc hs e28, none) := by
  unfold core_IntrinsicGas intrinsicSpec
  generalize hbase : (if (cc && hs) = true then (53000 : Nat) else 21000) = base
  have hb : base ≤ 53000 := by rw [← hbase]; split <;> omega
  cases data with
  | nil => simp [nzCount, k3_eq [] al cc hs e28 base (by omega) hl hk]
  | cons b tl =>
    rw [if_pos (by simp), range_count _ al cc hs e28 base _ 0 0 (by omega), Nat.zero_add,
      k2_eq _ _ _ _ _ _ _ hb (nzCount_le _) hd hl hk]

/-- C05: the intrinsic gas is never below `params.TxGas` -/
theorem tie_intrinsic_ge_txgas (data : List Nat) (alNil : Bool) (alLen alKeys : Nat) (cc hs e28 : Bool) :
    21000 ≤ intrinsicSpec data alNil alLen alKeys cc hs e28 := by
  unfold intrinsicSpec; split <;> omega

/-- **`CheckIfAccountIsSuitableForDestroyingAt`**, for every account value and every instant: destroyable exactly when
the account is not a module account and is not a vesting account (of either kind of type assertion) whose end time lies
after the given instant; it panics only on a nil account.  The instant is a *parameter* — the translated function reads
no clock (C01). -/
theorem tie_destroy_guard (acc : types_AccountI) (now : time_Time) (hnil : acc.cond_71534d2d = false) :
    ∃ reason, utils_CheckIfAccountIsSuitableForDestroyingAt acc now =
      some (!acc.is_sdk_ModuleAccountI
            && !(acc.is_vestingtypes_BaseVestingAccount && decide (acc.as_vestingtypes_BaseVestingAccount_GetEndTime > now.UTC_Unix))
            && !(acc.is_vesting_VestingAccount && decide (acc.as_vesting_VestingAccount_GetEndTime > now.UTC_Unix)), reason) := by
  unfold utils_CheckIfAccountIsSuitableForDestroyingAt utils_CheckIfAccountIsSuitableForDestroyingAt.k1 utils_CheckIfAccountIsSuitableForDestroyingAt.k2
  rw [hnil]
  -- what is left is a table over five Booleans (each comparison is read once)
  generalize decide (acc.as_vestingtypes_BaseVestingAccount_GetEndTime > now.UTC_Unix) = d1
  generalize decide (acc.as_vesting_VestingAccount_GetEndTime > now.UTC_Unix) = d2
  cases acc.is_sdk_ModuleAccountI <;> cases acc.is_vestingtypes_BaseVestingAccount <;> cases acc.is_vesting_VestingAccount <;>
    cases d1 <;> cases d2 <;> exact ⟨_, rfl⟩

/-- how an account of the World model looks to the Go type assertions -/
def accView (k : Kind) : types_AccountI :=
  match k with
  | .base => { (default : types_AccountI) with cond_71534d2d := false, is_sdk_ModuleAccountI := false, is_vesting_VestingAccount := false, is_vestingtypes_BaseVestingAccount := false }
  | .module => { (default : types_AccountI) with cond_71534d2d := false, is_sdk_ModuleAccountI := true, is_vesting_VestingAccount := false, is_vestingtypes_BaseVestingAccount := false }
  | .vesting endT _ => { (default : types_AccountI) with as_vesting_VestingAccount_GetEndTime := endT, as_vestingtypes_BaseVestingAccount_GetEndTime := endT, cond_71534d2d := false, is_sdk_ModuleAccountI := false, is_vesting_VestingAccount := true, is_vestingtypes_BaseVestingAccount := false }

/-- the model's `World.destroyable` is the translated guard evaluated at the block time -/
theorem tie_destroyable (w : World) (a : Addr) (ac : Acc) (h : w.acc.get a = some ac) :
    ∃ reason, utils_CheckIfAccountIsSuitableForDestroyingAt (accView ac.kind) { UTC_Unix := (w.now : Int) }
      = some (w.destroyable a, reason) := by
  obtain ⟨reason, hr⟩ := tie_destroy_guard (accView ac.kind) { UTC_Unix := (w.now : Int) } (by cases ac.kind <;> rfl)
  refine ⟨reason, ?_⟩
  rw [hr]
  unfold World.destroyable
  rw [h]
  rcases ac with ⟨k, s, n⟩
  cases k with
  | base => simp [accView]
  | module => simp [accView]
  | vesting e l => simp [accView]

theorem tie_block_gas_limit (ctx : types_Context) (hm : ctx.ConsensusParams_Block_MaxGas < 2^63) :
    types_BlockGasLimit ctx = some (
      if !ctx.BlockGasMeter_isNil && ctx.BlockGasMeter_Limit ≠ 0 then ctx.BlockGasMeter_Limit
      else if ctx.ConsensusParams_Block_isNil then 0
      else if ctx.ConsensusParams_Block_MaxGas = -1 then 2^64 - 1
      else if ctx.ConsensusParams_Block_MaxGas > 0 then ctx.ConsensusParams_Block_MaxGas.toNat else 0) := by
  unfold types_BlockGasLimit
  simp only [apply_ite some, decide_not, decide_eq_true_eq]
  -- the same chain on both sides; the only arithmetic is `uint64(maxGas)` of a positive int64
  by_cases h3 : ctx.ConsensusParams_Block_MaxGas > 0
  · rw [Go.toU_of_nonneg 64 _ (by omega) (by omega)]
  · rw [if_neg h3, if_neg h3]

end Evermint.Facts.TieTransition
