import EvermintModel.Facts.GenCode
import EvermintModel.Base.GoSemLemmas
import EvermintModel.Model.VAuth
/-!
Tie theorems for C16: the message server `SubmitProofExternalOwnedAccount` of `/repo/x/vauth/keeper`, **as translated from the
Go source on this run**.  The bank keeper and the proof store are objects the translator does not interpret: their calls appear
as an *effect log* (in call order) and their error results as inputs.  `tie_submit_proof` is the handler's complete decision table
(`spec`) — for every message, every bank behaviour, every stored state; `Outcome` names its rows.  A failing save is a panic (the
transaction boundary then drops the fee movement as well), never a silent success.
-/
namespace Evermint.Facts.TieVAuth
open Evermint Evermint.GenCode

def fee (m : keeper_msgServer) : List Go.Coin := [⟨m.evmKeeper_GetParams_EvmDenom, 1000000000000000000⟩]

def effSend (m : keeper_msgServer) : Go.Effect :=
  ⟨"m.bankKeeper.SendCoinsFromAccountToModule_MustAccAddressFromBech32", (fee m).map (·.Amount)⟩
def effBurn (m : keeper_msgServer) : Go.Effect := ⟨"m.bankKeeper.BurnCoins", (fee m).map (·.Amount)⟩
def effSave : Go.Effect := ⟨"m.SaveProofExternalOwnedAccount_m_lit_vauthtypes_ProofExternalOwnedAccount_5084c998", []⟩

/-- the handler's result: `none` = Go panic; otherwise the error class (none = success) and the calls made -/
def spec (m : keeper_msgServer) (msg : types_MsgSubmitProofExternalOwnedAccount) : Option (Option String × List Go.Effect) :=
  if msg.ValidateBasic ≠ none then some (msg.ValidateBasic, []) else
  if m.HasProofExternalOwnedAccount_MustAccAddressFromBech32 msg.Account then some (some "ErrConflict", []) else
  let e1 := m.bankKeeper_SendCoinsFromAccountToModule_MustAccAddressFromBech32 msg.Submitter "vauth" (fee m)
  if e1 ≠ none then some (e1, [effSend m]) else
  let e2 := m.bankKeeper_BurnCoins "vauth" (fee m)
  if e2 ≠ none then some (e2, [effSend m, effBurn m]) else
  if m.SaveProofExternalOwnedAccount_m_lit_vauthtypes_ProofExternalOwnedAccount_5084c998 ≠ none then none else
  some (none, [effSend m, effBurn m, effSave])

theorem tie_submit_proof (m : keeper_msgServer) (g : context_Context) (msg : types_MsgSubmitProofExternalOwnedAccount) :
    keeper_msgServer_SubmitProofExternalOwnedAccount m g msg = spec m msg := by
  unfold keeper_msgServer_SubmitProofExternalOwnedAccount spec effSend effBurn effSave fee
  -- the fee coin is built without a panic; the generated tests `!(err).isNone` read as the `err ≠ none` of `spec`: the same chain
  -- on both sides
  simp only [Go.newCoin_of_nonneg _ _ (show (0 : Int) ≤ 1000000000000000000 by decide),
    Go.newCoins1_of_ne ⟨m.evmKeeper_GetParams_EvmDenom, 1000000000000000000⟩ (show (1000000000000000000 : Int) ≠ 0 by decide),
    Bool.not_eq_true', Go.isNone_eq_false, ne_eq, List.nil_append, List.cons_append]

/-- **a rejected submission stores nothing and burns nothing**: when `ValidateBasic` fails (bad or foreign signature, malformed
addresses) or the account already has a proof, the handler made no call at all on the bank or on the proof store -/
theorem tie_submit_rejected_no_effect (m : keeper_msgServer) (g : context_Context) (msg : types_MsgSubmitProofExternalOwnedAccount)
    (h : msg.ValidateBasic ≠ none ∨ m.HasProofExternalOwnedAccount_MustAccAddressFromBech32 msg.Account = true) :
    ∃ e, e ≠ none ∧ keeper_msgServer_SubmitProofExternalOwnedAccount m g msg = some (e, []) := by
  rw [tie_submit_proof]; unfold spec
  by_cases hv : msg.ValidateBasic ≠ none
  · exact ⟨msg.ValidateBasic, hv, by simp [hv]⟩
  · have hp := h.resolve_left hv
    exact ⟨some "ErrConflict", by simp, by simp [hv, hp]⟩

/-- the rows of `spec` other than the panic, each with what the handler had found by then -/
inductive Outcome (m : keeper_msgServer) (msg : types_MsgSubmitProofExternalOwnedAccount) : Option String × List Go.Effect → Prop
  | rejected (e : Option String) (he : e ≠ none) : Outcome m msg (e, [])
  | sendFailed (e : Option String) (he : e ≠ none) : Outcome m msg (e, [effSend m])
  | burnFailed (e : Option String) (he : e ≠ none) : Outcome m msg (e, [effSend m, effBurn m])
  | saved (hv : msg.ValidateBasic = none) (hp : m.HasProofExternalOwnedAccount_MustAccAddressFromBech32 msg.Account = false) :
      Outcome m msg (none, [effSend m, effBurn m, effSave])

theorem spec_some {m : keeper_msgServer} {msg : types_MsgSubmitProofExternalOwnedAccount} {r : Option String × List Go.Effect}
    (h : spec m msg = some r) : Outcome m msg r := by
  unfold spec at h
  rcases of_ite_eq h with ⟨hv, h⟩ | ⟨hv, h⟩; · cases h; exact .rejected _ hv
  rcases of_ite_eq h with ⟨-, h⟩ | ⟨hp, h⟩; · cases h; exact .rejected _ (by simp)
  rcases of_ite_eq h with ⟨he, h⟩ | ⟨-, h⟩; · cases h; exact .sendFailed _ he
  rcases of_ite_eq h with ⟨he, h⟩ | ⟨-, h⟩; · cases h; exact .burnFailed _ he
  rcases of_ite_eq h with ⟨-, h⟩ | ⟨-, h⟩; · cases h
  cases h; exact .saved (Decidable.not_not.mp hv) (by simpa using hp)

/-- **a successful submission**: the signature check passed, the account had no proof, and exactly the fixed fee (1e18 of the EVM
denomination) was moved from the submitter to the module and burnt before the proof was saved — three calls, in this order, and no
other -/
theorem tie_submit_ok (m : keeper_msgServer) (g : context_Context) (msg : types_MsgSubmitProofExternalOwnedAccount) (eff : List Go.Effect)
    (h : keeper_msgServer_SubmitProofExternalOwnedAccount m g msg = some (none, eff)) :
    msg.ValidateBasic = none ∧ m.HasProofExternalOwnedAccount_MustAccAddressFromBech32 msg.Account = false ∧
    eff = [effSend m, effBurn m, effSave] ∧ (fee m).map (·.Amount) = [(VAuth.cost : Int)] := by
  rw [tie_submit_proof] at h
  cases spec_some h with
  | saved hv hp => exact ⟨hv, hp, rfl, rfl⟩
  | rejected _ he => exact absurd rfl he
  | sendFailed _ he => exact absurd rfl he
  | burnFailed _ he => exact absurd rfl he

/-- every error return happens before the proof is saved, and a failing save is a panic: the handler never reports success
without having called the save -/
theorem tie_submit_save_last (m : keeper_msgServer) (g : context_Context) (msg : types_MsgSubmitProofExternalOwnedAccount)
    (e : Option String) (eff : List Go.Effect)
    (h : keeper_msgServer_SubmitProofExternalOwnedAccount m g msg = some (e, eff)) : effSave ∈ eff ↔ e = none := by
  rw [tie_submit_proof] at h
  cases spec_some h <;> simp [effSave, effSend, effBurn, *]

/-- non-vacuity: an accepting bank and store — the three calls -/
example : keeper_msgServer_SubmitProofExternalOwnedAccount
    ⟨fun _ => false, none, fun _ _ => none, fun _ _ _ => none, "wei"⟩ ⟨⟩ ⟨"acc", "sub", none⟩ =
    some (none, [⟨"m.bankKeeper.SendCoinsFromAccountToModule_MustAccAddressFromBech32", [1000000000000000000]⟩,
                 ⟨"m.bankKeeper.BurnCoins", [1000000000000000000]⟩,
                 ⟨"m.SaveProofExternalOwnedAccount_m_lit_vauthtypes_ProofExternalOwnedAccount_5084c998", []⟩]) := rfl

end Evermint.Facts.TieVAuth
