import EvermintModel.Facts.Gen
import EvermintModel.Model.Eip712
import EvermintModel.Model.Sig
/-!
# Facts tying `Model/Sig.lean` and `Model/Eip712.lean` to `/repo/crypto/ethsecp256k1`, `/repo/ethereum/eip712`
and `/repo/x/cpc/eip712`  (regenerated every run)
-/
namespace Evermint.Facts.Crypto
open Evermint.Facts

/-- `VerifySignature = verifyECDSA(msg) || verifyAsEIP712(msg)` — the disjunction of `Sig.verify` -/
theorem fact_verify_shape :
    Gen.verifySignatureReturns = ["pubKey.verifySignatureECDSA(msg,sig)||pubKey.verifySignatureAsEIP712(msg,sig)"] ∧
    Gen.verifyAsEIP712Returns = ["false", "pubKey.verifySignatureECDSA(eip712Bytes,sig)"] := ⟨rfl, rfl⟩

/-- `verifyECDSA`: the only length that is stripped is 65 (`crypto.SignatureLength`), the digest is the
Keccak-256 of the bytes given, the key is the receiver's — `Sig.verifyECDSA` -/
theorem fact_verify_ecdsa :
    Gen.verifyECDSAConds = ["len(sig)==crypto.SignatureLength"] ∧
    Gen.verifyECDSAReturns = ["crypto.VerifySignature(pubKey.Key,crypto.Keccak256Hash(msg).Bytes(),sig)"] := ⟨rfl, rfl⟩

theorem fact_key_sizes : Gen.ethsecp256k1PrivKeySize = 32 ∧ Gen.ethsecp256k1PubKeySize = 33 := ⟨rfl, rfl⟩

/-- the address is computed from the *decompressed* key by go-ethereum's `PubkeyToAddress` -/
theorem fact_address_calls :
    Gen.addressCalls = ["crypto.DecompressPubkey", "tmcrypto.Address", "crypto.PubkeyToAddress().Bytes", "crypto.PubkeyToAddress"] := rfl

private def renderMembers (ms : Eip712.Members) : String := ",".intercalate (ms.map (fun (n, ty) => n ++ " " ++ ty))

/-- the fixed type table of `createEIP712Types` is `Eip712.fixedTypes` -/
theorem fact_eip712_fixed_types :
    Gen.eip712FixedTypes = Eip712.fixedTypes.map (fun (n, ms) => n ++ ":" ++ renderMembers ms) := by decide +kernel

theorem fact_eip712_consts :
    Gen.eip712Consts = ["rootPrefix=_", "typePrefix=Type", "txField=Tx", "ethBool=bool", "ethInt64=int64", "ethString=string",
      "msgTypeField=type", "maxDuplicateTypeDefs=" ++ toString Eip712.maxDuplicateTypeDefs, "payloadMsgsField=msgs"] := by decide +kernel

/-- the domain literal is the one `Eip712.domainEnc` encodes, with the chain id of the sign document -/
theorem fact_eip712_domain :
    Gen.eip712Domain = ["Name=Cosmos Web3", "Version=1.0.0", "ChainId=math.NewHexOrDecimal256(int64(chainID))", "VerifyingContract=cosmos", "Salt=0"] := rfl

/-- keys are visited in descending order; the amino decoding is tried before the protobuf one -/
theorem fact_eip712_orders :
    Gen.eip712KeyOrder = ["strings.Compare(keys[i],keys[j])>0"] ∧
    Gen.eip712DecodeOrder = ["errAmino==nil&&isValidEIP712Payload(typedDataAmino)", "errProtobuf==nil&&isValidEIP712Payload(typedDataProtobuf)"] := ⟨rfl, rfl⟩

/-- the precompiles' verifier hashes the typed message for the chain id it is given, recovers and compares with
the expected address (`StakingCpc.toNative`: `rec ≠ some md → none`) -/
theorem fact_cpc_verify :
    Gen.cpcVerifyCalls = ["EIP712HashingTypedMessage", "crypto.Ecrecover", "crypto.UnmarshalPubkey", "crypto.PubkeyToAddress"] ∧
    Gen.cpcVerifyMatch = ["recoveredAddress==expectedAddress"] := ⟨rfl, rfl⟩

end Evermint.Facts.Crypto
