import EvermintModel.Facts.GenCode
import EvermintModel.Model.World
/-!
Tie theorem for C02 / C03 / C04 / C06 / C15: `Keeper.IsEmptyAccount` (`/repo/x/evm/keeper/keeper.go`) — the EIP-161 emptiness
test behind `StateDB.Empty`, which decides what the end-of-transaction sweep deletes — **as translated from the Go source on
this run**, equals `World.isEmpty`: no code hash, a zero balance in **every** denomination, sequence 0 (whatever the account's
type) and no storage entry.  Three of the seeded changes of round 4 altered exactly this function (EVM denomination only;
sequence of base accounts only): they change the generated definition and this proof no longer goes through.
-/
namespace Evermint.Facts.TieEmpty
open Evermint Evermint.GenCode

/-- the keeper, as `IsEmptyAccount(ctx, a)` reads it in world `w` (`denomName` : any naming of the denominations) -/
def keeperView (w : World) (a : Addr) (denomName : Nat → String) : keeper_Keeper :=
  { (default : keeper_Keeper) with
    GetCodeHash_addr_Bytes_call_IsEmptyCodeHash := w.codeHash.get a == 0
    bankKeeper_GetAllBalances_addr_Bytes := ((List.range nDenoms).filter (fun d => w.balOf a d > 0)).map (fun d => ⟨denomName d, (w.balOf a d : Int)⟩)
    accountKeeper_GetAccount_addr_Bytes_isNil := (w.acc.get a).isNone
    accountKeeper_GetAccount_addr_Bytes_GetSequence := (match w.acc.get a with | some ac => ac.seq | none => 0)
    ForEachStorage_addr_visits := w.hasStorage a }

/-- `GetAllBalances` lists the positive balances only: all of them are zero iff every balance is -/
theorem positive_all_zero (bal : Nat → Nat) (name : Nat → String) (ds : List Nat) :
    ((ds.filter (fun d => bal d > 0)).map (fun d => (⟨name d, (bal d : Int)⟩ : Go.Coin))).all (fun c => decide (c.Amount = 0))
      = ds.all (fun d => bal d == 0) := by
  rw [List.all_map, List.all_filter]
  congr 1; funext d
  by_cases h : bal d = 0 <;> simp [h, Nat.pos_of_ne_zero]

theorem tie_is_empty_account (w : World) (a : Addr) (denomName : Nat → String) (ctx : types_Context) (addr : common_Address) :
    keeper_Keeper_IsEmptyAccount (keeperView w a denomName) ctx addr = some (w.isEmpty a) := by
  unfold keeper_Keeper_IsEmptyAccount World.isEmpty keeperView
  simp only [positive_all_zero (w.balOf a) denomName]
  cases w.codeHash.get a == 0
  · simp
  cases (List.range nDenoms).all (fun d => w.balOf a d == 0)
  · simp
  cases hacc : w.acc.get a with
  | none => cases w.hasStorage a <;> simp
  | some ac =>
    by_cases hq : ac.seq = 0
    · cases w.hasStorage a <;> simp [hq]
    · simp [hq, Nat.pos_of_ne_zero hq]

end Evermint.Facts.TieEmpty
