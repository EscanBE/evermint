import EvermintModel.Facts.TieAnteChain
import EvermintModel.Facts.TieAnteBasic
import EvermintModel.Facts.TieAnteEvm
/-!
**C07 on the generated code, end to end.**  The five lane decorators of the Ethereum lane — `02_ext_opt`, `03_validate_basic`,
`03e_validate_basic_eoa`, `04_timeout_height`, `05_memo`, in the order of `ante.go` (regenerated as `Facts.Gen.anteChain`,
`fact_ante_chain`) — are composed *as translated from the Go source on this run*, each receiving the rest as its continuation.
`tie_eth_lane_shape`: if that composition reaches what follows it (the fee, signature and sequence decorators and finally the
execution), then the transaction has the shape the property demands: a well-formed Ethereum transaction (sole message, no foreign
or non-critical extension option), no signer infos, no fee payer, no fee granter, no Cosmos signatures, no memo, no timeout
height, replay-protected, a non-empty sender without code, and declared fee and gas limit equal to those of the embedded
Ethereum transaction.  No hand-written model stands between this statement and the code.
-/
namespace Evermint.Facts.TieAnteLane
open Evermint Evermint.GenCode Evermint.Facts.TieAnteBasic

abbrev Next := Bool → (Unit × Option String)

/-- a decorator applied to its continuation, as a continuation itself (a Go panic of the decorator is the class "panic") -/
def lift (f : Next → Option (Option String)) (next : Next) : Next := fun _ => ((), (f next).getD (some "panic"))

def ethLaneChain (d02 : duallane_DLExtensionOptionsDecorator) (d03 : duallane_DLValidateBasicDecorator)
    (d03e : evmlane_ELValidateBasicEoaDecorator) (d04 : duallane_DLTxTimeoutHeightDecorator) (d05 : duallane_DLValidateMemoDecorator)
    (ctx : types_Context) (tx : types_Tx) (sim : Bool) (next : Next) : Option (Option String) :=
  duallane_DLExtensionOptionsDecorator_AnteHandle d02 ctx tx sim <|
  lift (duallane_DLValidateBasicDecorator_AnteHandle d03 ctx tx sim) <|
  lift (evmlane_ELValidateBasicEoaDecorator_AnteHandle d03e ctx tx sim) <|
  lift (duallane_DLTxTimeoutHeightDecorator_AnteHandle d04 ctx tx sim) <|
  lift (duallane_DLValidateMemoDecorator_AnteHandle d05 ctx tx sim) next

/-- the answer of "what follows the lane decorators", distinguishable from every error class they produce -/
def reached : String := "«reached»"
def nextReached : Next := fun _ => ((), some reached)

/-- whatever `03_validate_basic` answers when it refuses, it is not the marker of the continuation -/
theorem verdict03_refusal_not_reached (d03 : duallane_DLValidateBasicDecorator) (tx : types_Tx) (el : iface_ProtoMessage_Reset_String)
    (r : Option (Option String))
    (hin1 : tx.as_sdk_HasValidateBasic_ValidateBasic ≠ some reached) (hin2 : el.as_evmtypes_MsgEthereumTx_ValidateBasic ≠ some reached)
    (hv : verdict03 d03 tx true el = some r) : r.getD (some "panic") ≠ some reached := by
  unfold verdict03 at hv
  -- down the chain: a refusal is a fixed error class, one of the two `ValidateBasic` errors, or (no fee coins) a panic
  rcases guardWith_some _ _ _ _ hv with rfl | hv; · simp [reached]
  rcases guardWith_some _ _ _ _ hv with rfl | hv; · simpa using hin1
  iterate 4 (rcases guardWith_some _ _ _ _ hv with rfl | hv; · simp [reached])
  rcases guardWith_some _ _ _ _ hv with rfl | hv; · simpa using hin2
  iterate 4 (rcases guardWith_some _ _ _ _ hv with rfl | hv; · simp [reached])
  split at hv
  · cases hv; simp [reached]
  iterate 2 (rcases guardWith_some _ _ _ _ hv with rfl | hv; · simp [reached])
  cases hv

theorem pass_of_reached {c : Prop} [Decidable c] {e : String} {x : Option String} (he : e ≠ reached)
    (h : (if c then some e else x) = some reached) : ¬ c ∧ x = some reached :=
  (of_ite_eq h).resolve_left fun h => he (Option.some.inj h.2)

theorem tie_eth_lane_shape (d02 : duallane_DLExtensionOptionsDecorator) (d03 : duallane_DLValidateBasicDecorator)
    (d03e : evmlane_ELValidateBasicEoaDecorator) (d04 : duallane_DLTxTimeoutHeightDecorator) (d05 : duallane_DLValidateMemoDecorator)
    (ctx : types_Context) (tx : types_Tx) (sim : Bool) (isEthTx : Bool) (el : iface_ProtoMessage_Reset_String)
    (hre : ctx.IsReCheckTx = false) (hs : utils_HasSingleEthereumMessage tx = some true) (he : utils_IsEthereumTx tx = some isEthTx)
    (h0 : Go.idx tx.GetMsgs 0 = some el)
    (hin1 : tx.as_sdk_HasValidateBasic_ValidateBasic ≠ some reached) (hin2 : el.as_evmtypes_MsgEthereumTx_ValidateBasic ≠ some reached)
    (hacc : ethLaneChain d02 d03 d03e d04 d05 ctx tx sim nextReached = some (some reached)) :
    isEthTx = true ∧
    tx.as_protoTxProvider_GetProtoTx_AuthInfo_SignerInfos = [] ∧
    tx.as_protoTxProvider_GetProtoTx_AuthInfo_Fee_Payer = "" ∧
    tx.as_protoTxProvider_GetProtoTx_AuthInfo_Fee_Granter = "" ∧
    tx.as_protoTxProvider_GetProtoTx_Signatures_len ≤ 0 ∧
    tx.as_protoTxProvider_GetProtoTx_Body_Memo = "" ∧
    tx.as_protoTxProvider_GetProtoTx_Body_TimeoutHeight = 0 ∧
    el.as_evmtypes_MsgEthereumTx_AsTransaction_Protected = true ∧
    el.as_evmtypes_MsgEthereumTx_GetFrom ≠ [] ∧
    d03e.ek_GetCodeHash_el_as_evmtypes_MsgEthereumTx_GetFrom_call_IsEmptyCodeHash = true ∧
    (∃ fee, ethFeeCoins d03.ek_GetParams_GetEvmDenom el = some fee ∧ tx.as_protoTxProvider_GetProtoTx_AuthInfo_Fee_Amount = fee) ∧
    tx.as_protoTxProvider_GetProtoTx_AuthInfo_Fee_GasLimit = el.as_evmtypes_MsgEthereumTx_AsTransaction_Gas := by
  -- each decorator by its decision table, on the Ethereum lane (`HasSingleEthereumMessage = true`)
  unfold ethLaneChain at hacc
  simp only [lift, TieAnteChain.tie_ext_opt d02 ctx tx sim _ true isEthTx hs he, tie_validate_basic d03 ctx tx sim _ isEthTx el hre hs he h0,
    TieAnteEvm.tie_validate_eoa d03e ctx tx sim _ true el hs h0, TieAnteChain.tie_timeout_height d04 ctx tx sim _ true hs,
    TieAnteChain.tie_memo d05 ctx tx sim _ true hs, nextReached, Bool.not_true, Bool.false_eq_true, if_false, Option.getD_some,
    Option.some.injEq] at hacc
  obtain ⟨h02, hacc⟩ := pass_of_reached (by simp [reached]) hacc
  obtain rfl : isEthTx = true := by simpa using h02
  cases hv : verdict03 d03 tx true el with
  | some r => rw [hv] at hacc; exact absurd hacc (verdict03_refusal_not_reached d03 tx el r hin1 hin2 hv)
  | none =>
    simp only [hv, Option.getD_some] at hacc
    obtain ⟨hfrom, hacc⟩ := pass_of_reached (by simp [reached]) hacc
    obtain ⟨hcode, hacc⟩ := pass_of_reached (by simp [reached]) hacc
    obtain ⟨hto, hacc⟩ := pass_of_reached (by simp [reached]) hacc
    obtain ⟨hmemo, _⟩ := pass_of_reached (by simp [reached]) hacc
    obtain ⟨_, hsi, hpay, hgr, hsig, _, hprot, _, _, ⟨fee, hfee, hfeq⟩, hgas⟩ := tie_validate_basic_shape d03 tx true el hv
    obtain ⟨c, rfl⟩ := ethFeeCoins_some hfee
    exact ⟨rfl, hsi, hpay, hgr, hsig, by simpa using hmemo, by simpa using hto, hprot, hfrom, by simpa using hcode,
      ⟨_, hfee, coinsEqual_newCoins1 _ _ hfeq⟩, hgas⟩

end Evermint.Facts.TieAnteLane
