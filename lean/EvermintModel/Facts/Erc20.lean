import EvermintModel.Facts.Gen
import EvermintModel.Model.Erc20
/-! Fact obligations for C10: the allowance key layout and the ERC-20 method table are what the model
transcribes (regenerated from /repo on every run). -/
namespace Evermint.Facts.Erc20
open Evermint.Facts

/-- the allowance store key is `prefix ++ owner ++ spender` — the model's `(owner, spender)` table;
a token component appearing here means the model (and finding F5) must be revisited -/
theorem fact_allowance_key : Gen.allowanceKeyComponents = ["KeyPrefixErc20CpcAllowance", "owner", "spender"] := rfl

def erc20Rows : List Gen.MethodFact := Gen.cpcMethods.filter (fun m => m.contract == "erc20")

/-- the eleven methods, by ABI signature and read-only flag, exactly as modelled (`name/symbol/decimals`
are constant views of the metadata) -/
theorem fact_erc20_method_table : erc20Rows.map (fun m => (m.name, m.readOnly)) =
    [("name()", true), ("approve(address,uint256)", false), ("totalSupply()", true),
     ("transferFrom(address,address,uint256)", false), ("decimals()", true), ("burn(uint256)", false),
     ("balanceOf(address)", true), ("burnFrom(address,uint256)", false), ("symbol()", true),
     ("transfer(address,uint256)", false), ("allowance(address,address)", true)] := by decide +kernel

/-- every hard-coded selector is the ABI id of the method it names; one executor per ABI method -/
theorem fact_erc20_selectors : erc20Rows.all (fun m => m.selector == m.abiId && m.abiId != "") = true ∧
    erc20Rows.length = Gen.abiMethodCount_erc20 := by decide +kernel

/-- view methods reach no state-writing API at all (write census of the executor bodies) -/
theorem fact_erc20_views_write_nothing : (erc20Rows.filter (·.readOnly)).all (fun m => m.writes == []) = true := by
  decide +kernel

/-- the coin-moving methods only use bank send / burn (never mint) and the allowance setter -/
theorem fact_erc20_writes_no_mint :
    erc20Rows.all (fun m => m.writes.all (fun w => ["AddLog", "BurnCoins", "Delete", "SendCoins", "SendCoinsFromAccountToModule", "Set", "SetErc20CpcAllowance"].contains w)) = true := by
  decide +kernel

end Evermint.Facts.Erc20
