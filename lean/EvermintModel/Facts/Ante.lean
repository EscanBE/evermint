import EvermintModel.Facts.Gen
import EvermintModel.Model.Ante
/-! Fact obligations for C07 / C16: the chain order, the disabled list, the depth cap and its
comparison are re-read from /repo on every run and must be what `Model/Ante.lean` transcribes. -/
namespace Evermint.Facts.Ante
open Evermint.Facts Evermint.Ante

/-- the 20 decorators of `NewAnteHandler`, in order; the model interprets 01–05, 03e, 991c–993c and takes
the verdict of the others as observed -/
theorem fact_ante_chain : Gen.anteChain =
    ["duallane.NewDualLaneSetupContextDecorator", "duallane.NewDualLaneExtensionOptionsDecorator",
     "duallane.NewDualLaneValidateBasicDecorator", "evmlane.NewEvmLaneValidateBasicEoaDecorator",
     "duallane.NewDualLaneTxTimeoutHeightDecorator", "duallane.NewDualLaneValidateMemoDecorator",
     "duallane.NewDualLaneConsumeTxSizeGasDecorator", "duallane.NewDualLaneDeductFeeDecorator",
     "duallane.NewDualLaneSetPubKeyDecorator", "duallane.NewDualLaneValidateSigCountDecorator",
     "duallane.NewDualLaneSigGasConsumeDecorator", "duallane.NewDualLaneSigVerificationDecorator",
     "duallane.NewDualLaneIncrementSequenceDecorator", "duallane.NewDualLaneRedundantRelayDecorator",
     "evmlane.NewEvmLaneSetupExecutionDecorator", "evmlane.NewEvmLaneEmitEventDecorator",
     "evmlane.NewEvmLaneExecWithoutErrorDecorator", "cosmoslane.NewCosmosLaneRejectEthereumMsgsDecorator",
     "cosmoslane.NewCosmosLaneRejectAuthzMsgsDecorator", "cosmoslane.NewCosmosLaneVestingMessagesAuthorizationDecorator"] := rfl

/-- url ids 0..3 of the model are exactly the configured disabled nested messages -/
theorem fact_disabled_list : Gen.disabledNestedMsgs =
    ["evmtypes.MsgEthereumTx", "sdkvesting.MsgCreateVestingAccount", "sdkvesting.MsgCreatePeriodicVestingAccount",
     "sdkvesting.MsgCreatePermanentLockedAccount"] ∧ Gen.disabledNestedMsgs.length = disabledUrls.length := by
  decide +kernel

theorem fact_nested_cap : Gen.maxNestedLevelsCount = maxNestedLevels ∧ Gen.nestedCapCompare = "nestedLvl > cap" ∧
    Gen.nestedStartLevel = 1 := by decide +kernel

end Evermint.Facts.Ante
